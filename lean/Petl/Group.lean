/-
  Petl.Group — model of rowgroupby and the grouping operators of petl.transform.reductions
  (aggregate simple/multi/key=None, rowreduce-based groupselect*, fold, mergeduplicates).
-/
import Petl.Sort
namespace Petl

/-- `itertools.groupby(rows, key)`: maximal runs of adjacent rows with equal keys,
    each labelled with the key of its first row -/
def groups (key : Row → Val) : List Row → List (Val × List Row)
  | [] => []
  | r :: rest =>
    match groups key rest with
    | (k, g) :: gs => if Val.eq (key r) k then (key r, r :: g) :: gs else (key r, [r]) :: (k, g) :: gs
    | [] => [(key r, [r])]

/-- named aggregation functions shared with the harness -/
inductive AggFn where
  | len | list | sum | min | max | first | last
deriving DecidableEq, Repr, Inhabited

def asInt? : Val → Option Int
  | .num .int (.fin q) => if q.den = 1 then some q.num else none
  | _ => none

def intVal (i : Int) : Val := .num .int (.fin (i : Rat))

def AggFn.apply (f : AggFn) (vs : List Val) : Except Err Val :=
  match f with
  | .len => .ok (intVal vs.length)
  | .list => .ok (.seq true vs)
  | .first => match vs with | v :: _ => .ok v | [] => .error .stopIteration
  | .last => match vs.getLast? with | some v => .ok v | none => .ok .none
  | .sum =>
    match vs.mapM asInt? with
    | some is => .ok (intVal is.sum)
    | none => .error .type
  | .min =>
    if let [v] := vs then .ok v else
    match vs.mapM asInt? with
    | some (i :: is) => .ok (intVal (is.foldl (fun a b => if b < a then b else a) i))
    | some [] => .error .value
    | none => .error .type
  | .max =>
    if let [v] := vs then .ok v else
    match vs.mapM asInt? with
    | some (i :: is) => .ok (intVal (is.foldl (fun a b => if a < b then b else a) i))
    | some [] => .error .value
    | none => .error .type

/-- `key.inner` spread into output cells: one cell for a single key field, the tuple's items otherwise -/
def keyCells (kidx : List Nat) (k : Val) : Row :=
  match kidx, k with
  | [_], v => [v]
  | _, .seq _ xs => xs
  | _, v => [v]

/-- `operator.itemgetter(*idx)` on a `Record` (rowgroupby wraps rows): a missing cell reads as None -/
def rawGet (idx : List Nat) (r : Row) : Except Err Val :=
  .ok (match idx with
    | [i] => getCell r i
    | _ => .seq false (idx.map (getCell r)))

/-- the values handed to an aggregation: whole rows (as tuples) or the selected field(s) -/
def groupValues (vidx : Option (List Nat)) (g : List Row) : Except Err (List Val) :=
  match vidx with
  | none => .ok (g.map (fun r => .seq false r))
  | some idx => g.mapM (rawGet idx)

/-- run a per-group row producer over the groups, stopping at the first error (rows before it are delivered) -/
def mapGroups (f : Val × List Row → Except Err Row) : List (Val × List Row) → List Row × Option Err
  | [] => ([], none)
  | g :: gs =>
    match f g with
    | .error e => ([], some e)
    | .ok r => let (rs, e) := mapGroups f gs; (r :: rs, e)

def mkOut (hdr : Row) (res : List Row × Option Err) : Out :=
  { rows := hdr :: res.1, err := res.2 }

def sortedGroups (kidx : List Nat) (bs : Option Nat) (rows : List Row) : List (Val × List Row) :=
  groups (getKey kidx) (sortRows (rowLe kidx false) bs rows)

/-- `aggregate(table, key, aggregation, value)` with a key (simple form); output field name `field` -/
def simpleAggregate (keyHdr : Row) (field : Val) (kidx : List Nat) (vidx : Option (List Nat)) (f : AggFn)
    (bs : Option Nat) (rows : List Row) : Out :=
  mkOut (keyHdr ++ [field]) (mapGroups (fun g => do
    let vs ← groupValues vidx g.2
    let a ← f.apply vs
    pure (keyCells kidx g.1 ++ [a])) (sortedGroups kidx bs rows))

/-- one column of a multi-aggregation: source field indices (none = whole rows) and function -/
structure AggCol where
  src : Option (List Nat)
  fn : AggFn

def multiAggregate (outHdr : Row) (kidx : Option (List Nat)) (cols : List AggCol)
    (bs : Option Nat) (rows : List Row) : Out :=
  let gs : List (Val × List Row) :=
    match kidx with
    | some k => sortedGroups k bs rows
    | none => if rows.isEmpty then [] else [(.none, rows)]
  mkOut outHdr (mapGroups (fun g => do
    let cells ← cols.mapM (fun c => do
      let vs ← groupValues c.src g.2
      c.fn.apply vs)
    pure ((match kidx with | some k => keyCells k g.1 | none => []) ++ cells)) gs)

/-- groupselectfirst / groupselectlast -/
def groupSelect (last : Bool) (hdr : Row) (kidx : List Nat) (bs : Option Nat) (rows : List Row) : Out :=
  mkOut hdr (mapGroups (fun g =>
    match (if last then g.2.getLast? else g.2.head?) with
    | some r => .ok r
    | none => .error .stopIteration) (sortedGroups kidx bs rows))

/-- groupselectmin / groupselectmax: sort by the value field first (stable), then first of each key group -/
def groupSelectExt (max : Bool) (hdr : Row) (kidx vidx : List Nat) (bs : Option Nat) (rows : List Row) : Out :=
  groupSelect false hdr kidx bs (sortRows (rowLe vidx max) none rows)

/-- `fold(table, key, operator.add, value)` on integer values -/
def foldAdd (kidx : List Nat) (vidx : List Nat) (bs : Option Nat) (rows : List Row) : Out :=
  mkOut [.str [107, 101, 121], .str [118, 97, 108, 117, 101]] (mapGroups (fun g => do
    let vs ← groupValues (some vidx) g.2
    if let [v] := vs then pure [g.1, v] else
    match vs.mapM asInt? with
    | some (i :: is) => pure [g.1, intVal (is.foldl (· + ·) i)]
    | some [] => .error .type
    | none => .error .type) (sortedGroups kidx bs rows))

/-- distinct values (first representative kept), as a Python set of hashable cells does -/
def dedupVals : List Val → List Val
  | [] => []
  | v :: vs => v :: (dedupVals vs).filter (fun w => !Val.eq v w)

/-- mergeduplicates: per key group and value field, the set of non-missing values:
    one value ↦ it, none ↦ missing, several ↦ Conflict (printed as a list, order-insensitive) -/
def mergeDuplicates (outHdr : Row) (kidx : List Nat) (vfidx : List Nat) (missing : Val)
    (bs : Option Nat) (rows : List Row) : Out :=
  mkOut outHdr (mapGroups (fun g =>
    let cells := vfidx.map (fun i =>
      let vals := dedupVals ((g.2.filter (fun r => i < r.length)).map (fun r => getCell r i)
                    |>.filter (fun v => !Val.pyEq v missing))
      match vals with
      | [] => missing
      | [v] => v
      | vs => .seq true vs)
    .ok (keyCells kidx g.1 ++ cells)) (sortedGroups kidx bs rows))

end Petl
