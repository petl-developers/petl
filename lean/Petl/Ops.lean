/-
  Petl.Ops — dispatch table of the driver: op name ↦ (parse arguments, run model, print).
-/
import Petl.Proto
import Petl.Sort
import Petl.Join
import Petl.HashJoin
import Petl.SetOps
import Petl.Group
import Petl.Dedup
import Petl.Select
import Petl.ErrPolicy
import Petl.Basics
import Petl.Reshape
import Petl.Views
import Petl.TempFiles
import Petl.Db
import Petl.Lazy
import Petl.Csv
namespace Petl

def opCmp : P String := do
  let a ← pVal
  let b ← pVal
  pure (" ".intercalate [showBool (Val.lt a b), showBool (Val.eq a b), showBool (Val.le a b),
    showBool (Val.gt a b), showBool (Val.ge a b), showBool (Val.pyEq a b)])

/-- sort <key> <reverse> <buffersize|-> <table> -/
def opSort : P String := do
  let key ← pKey
  let rev ← pBool
  let bs ← pOptNat
  let t ← pTable
  pure (showOut (sortView t key rev bs))

/-- mergesorted <key> <reverse> <buffersize|-> <presorted> <n> <table>…  (tables over one header):
    the per-table sort followed by the k-way merge -/
def opMergeSort : P String := do
  let key ← pKey
  let rev ← pBool
  let bs ← pOptNat
  let presorted ← pBool
  let ts ← pList pTable
  match ts with
  | [] => pure (showOut (.ok []))
  | t0 :: _ =>
    let hdr := t0.headD []
    match (match key with
           | some k => asindices hdr k
           | none => .ok (List.range hdr.length)) with
    | .error e => pure (showOut (.fail [hdr] e))
    | .ok idx =>
      let le := rowLe idx rev
      let datas := ts.map (fun t => ((if presorted then t.drop 1 else sortRows le bs (t.drop 1))).map (squareRow hdr.length .none))
      pure (showOut (.ok (hdr :: mergeSorted le datas)))

def opMergeSortH : P String := do
  let key ← pKey
  let rev ← pBool
  let bs ← pOptNat
  let missing ← pVal
  let ts ← pList pTable
  let outhdr := catHeader (ts.map (fun t => t.headD []))
  match (match key with
         | some k => asindices outhdr k
         | none => .ok (List.range outhdr.length)) with
  | .error e => pure (showOut (.fail [outhdr] e))
  | .ok idx => pure (showOut (.ok (outhdr :: mergesortH idx rev bs outhdr missing ts)))

/-- issorted <key> <reverse> <strict> <table> -/
def opIsSorted : P String := do
  let key ← pKey
  let rev ← pBool
  let strict ← pBool
  let t ← pTable
  match t with
  | [] => pure "ERR StopIteration"
  | hdr :: rows =>
    match (match key with
           | some k => asindices hdr k
           | none => .ok (List.range hdr.length)) with
    | .error e => pure ("ERR " ++ e.code)
    | .ok idx => pure (showBool (isSortedBy idx rev strict rows))

def pOptText : P (Option (List Nat)) := do
  let t ← tok
  if t == "-" then pure none else
  if t.front == 'S' then
    match parseCps (t.drop 1).toString with
    | some l => pure (some l)
    | none => P.fail s!"bad text {t}"
  else P.fail s!"expected text or -, got {t}"

def pJoinKind : P JoinKind := do
  let t ← tok
  match t with
  | "inner" => pure .inner | "left" => pure .left | "right" => pure .right
  | "outer" => pure .outer | "anti" => pure .anti | "lookup" => pure .lookup
  | _ => P.fail s!"bad join kind {t}"

/-- join <kind> <missing> <lprefix|-> <rprefix|-> <lkey> <rkey> <bs|-> <L> <R> -/
def opJoin : P String := do
  let kind ← pJoinKind
  let missing ← pVal
  let lp ← pOptText
  let rp ← pOptText
  let lkey ← pKey
  let rkey ← pKey
  let bs ← pOptNat
  let l ← pTable
  let r ← pTable
  match lkey, rkey with
  | some lk, some rk => pure (showOut (joinView kind missing lp rp lk rk bs l r))
  | _, _ => P.fail "join needs explicit keys"

/-- crossjoin <missing> <n> <table>… -/
def opCrossJoin : P String := do
  let missing ← pVal
  let ts ← pList pTable
  pure (showOut (crossJoinView missing ts))

/-- hashjoin <kind> <missing> <lprefix|-> <rprefix|-> <lkey> <rkey> <L> <R> -/
def opHashJoin : P String := do
  let kind ← pJoinKind
  let missing ← pVal
  let lp ← pOptText
  let rp ← pOptText
  let lkey ← pKey
  let rkey ← pKey
  let l ← pTable
  let r ← pTable
  match lkey, rkey with
  | some lk, some rk => pure (showOut (hashJoinView kind missing lp rp lk rk l r))
  | _, _ => P.fail "hashjoin needs explicit keys"

def rawKey (idx : List Nat) (r : Row) : Val :=
  match idx with
  | [i] => getCell r i
  | _ => .seq false (idx.map (getCell r))

/-- lookup <one> <strict> <key> <value|KN> <table>: the dictionary as rows (key, value) in insertion order -/
def opLookup : P String := do
  let one ← pBool
  let strict ← pBool
  let key ← pKey
  let value ← pKey
  let t ← pTable
  let hdr := t.headD []
  let rows := t.drop 1
  match key with
  | none => P.fail "lookup needs a key"
  | some k =>
    match asindices hdr k with
    | .error e => pure ("ERR " ++ e.code)
    | .ok kidx =>
      if kidx.isEmpty then pure "ERR Assertion" else
      let vidx? : Except Err (Option (List Nat)) :=
        match value with
        | none => .ok none
        | some v => (asindices hdr v).map some
      match vidx? with
      | .error e => pure ("ERR " ++ e.code)
      | .ok vidx =>
        if vidx == some [] then pure "ERR Assertion" else
        let need := kidx ++ (match vidx with | some v => v | none => List.range hdr.length)
        -- raw itemgetter / rowgetter: IndexError on a row too short for a needed index;
        -- rows before it are processed first (a strict duplicate among them wins)
        let firstShort := rows.findIdx? (fun r => need.any (fun i => r.length ≤ i))
        let usable := match firstShort with | some j => rows.take j | none => rows
        let getv : Row → Val := match vidx with
          | none => fun r => .seq false ((List.range hdr.length).map (getCell r))
          | some v => rawKey v
        if one then
          let chk (idx : List Nat) (f : Row → Val) : Row → Except Err Val :=
            fun r => if idx.any (fun i => r.length ≤ i) then .error .index else .ok (f r)
          let vneed := match vidx with | some v => v | none => List.range hdr.length
          match buildLookupOneE (chk kidx (rawKey kidx)) (chk vneed getv) strict rows [] with
          | .error e => pure ("ERR " ++ e.code)
          | .ok d => pure (showTable (d.map (fun e => [e.1, e.2])))
        else
          if firstShort.isSome then pure "ERR Index" else
          let d := buildLookup (rawKey kidx) getv usable
          pure (showTable (d.map (fun e => [e.1, Val.seq true e.2])))

/-- setop <complement|intersection|hashcomplement|hashintersection> <strict> <bs|-> <A> <B> -/
def opSetOp : P String := do
  let t ← tok
  let op? : Option SetOp := match t with
    | "complement" => some .complement | "intersection" => some .intersection
    | "hashcomplement" => some .hashcomplement | "hashintersection" => some .hashintersection
    | _ => none
  match op? with
  | none => P.fail s!"bad set op {t}"
  | some op =>
    let strict ← pBool
    let bs ← pOptNat
    let a ← pTable
    let b ← pTable
    pure (showOut (setOpView op strict bs a b))

def pAggFn : P AggFn := do
  let t ← tok
  match t with
  | "len" => pure .len | "list" => pure .list | "sum" => pure .sum | "min" => pure .min
  | "max" => pure .max | "first" => pure .first | "last" => pure .last
  | _ => P.fail s!"bad aggregation {t}"

/-- the header cell a key spec item contributes: the name, or the index itself -/
def specCell : FSpec → Val
  | .name s => .str s
  | .idx i => .num .int (.fin (i : Rat))

/-- agg <key|KN> <value|KN> <fn> <field> <bs|-> <table>  (simple aggregate, with or without a key) -/
def opAgg : P String := do
  let key ← pKey
  let value ← pKey
  let fn ← pAggFn
  let field ← pVal
  let bs ← pOptNat
  let t ← pTable
  match t, key with
  | hdr :: rows, some k =>
    let outhdr := k.map specCell ++ [field]
    match asindices hdr k with
    | .error e => pure (showOut (.fail [outhdr] e))
    | .ok kidx =>
      match (match value with | none => Except.ok none | some v => (asindices hdr v).map some) with
      | .error e => pure (showOut (.fail [outhdr] e))
      | .ok vidx => pure (showOut (simpleAggregate (k.map specCell) field kidx vidx fn bs rows))
  | hdr :: rows, none =>
    -- no key: one group made of all the rows (petl 88398f1: whole rows when no value field is given; `values()` pads
    -- short rows with None)
    match (match value with | none => Except.ok none | some v => (asindices hdr v).map some) with
    | .error e => pure (showOut (.fail [[field]] e))
    | .ok vidx => pure (showOut (keylessAggregate field vidx fn rows))
  | _, _ => pure "ERR unsupported"

/-- gcdv <key> <valuefield> <bs|-> <table>: the data rows (key cells…, count) -/
def opGcdv : P String := do
  let key ← pKey
  let value ← pKey
  let bs ← pOptNat
  let t ← pTable
  match t, key, value with
  | hdr :: rows, some k, some [v] =>
    match asindices hdr k, asindices hdr [v] with
    | .ok kidx, .ok [vidx] =>
      let out := (groupCountDistinct kidx vidx bs rows).map (fun g => keyCells (List.range kidx.length) g.1 ++ [intVal g.2])
      pure (showOut (.ok out))
    | .error e, _ => pure (showOut (.fail [] e))
    | _, .error e => pure (showOut (.fail [] e))
    | _, _ => pure "ERR unsupported"
  | _, _, _ => pure "ERR unsupported"

/-- multiagg <key|KN> <n> (<outfield> <src|KN> <fn>)… <bs|-> <table> -/
def opMultiAgg : P String := do
  let key ← pKey
  let cols ← pList (do
    let name ← pVal
    let src ← pKey
    let fn ← pAggFn
    pure (name, src, fn))
  let bs ← pOptNat
  let t ← pTable
  match t with
  | hdr :: rows =>
    let keyHdr := match key with | some k => k.map specCell | none => []
    let outhdr := keyHdr ++ cols.map (·.1)
    let kidx? : Except Err (Option (List Nat)) :=
      match key with | none => .ok none | some k => (asindices hdr k).map some
    match kidx? with
    | .error e => pure (showOut (.fail [outhdr] e))
    | .ok kidx =>
      -- `hdr.index(f)`: first field equal to the name; ValueError if absent
      let resolve (src : Option (List FSpec)) : Except Err (Option (List Nat)) :=
        match src with
        | none => .ok none
        | some fs => (fs.mapM (fun (f : FSpec) => match f with
            | FSpec.name s => match hdr.findIdx? (fun c => Val.pyEq c (.str s)) with
              | some i => (Except.ok i : Except Err Nat)
              | none => .error .value
            | FSpec.idx _ => .error .value)).map some
      -- sources are resolved lazily, per group: with no groups nothing is resolved
      let colsR := cols.map (fun c => (resolve c.2.1, c.2.2))
      let gs : List (Val × List Row) :=
        match kidx with
        | some k => sortedGroups k bs rows
        | none => if rows.isEmpty then [] else [(.none, rows)]
      let res := mapGroups (fun g => do
        let cells ← colsR.mapM (fun c => do
          let src ← c.1
          let vs ← groupValues src g.2
          c.2.apply vs)
        pure ((match kidx with | some k => keyCells k g.1 | none => []) ++ cells)) gs
      pure (showOut (mkOut outhdr res))
  | _ => pure "ERR unsupported"

/-- gsel <first|last|min|max> <key> <value|KN> <bs|-> <table> -/
def opGroupSelect : P String := do
  let which ← tok
  let key ← pKey
  let value ← pKey
  let bs ← pOptNat
  let t ← pTable
  match t, key with
  | hdr :: rows, some k =>
    match asindices hdr k with
    | .error e => pure (showOut (.fail [hdr] e))
    | .ok kidx =>
      match which, value with
      | "first", _ => pure (showOut (groupSelect false hdr kidx bs rows))
      | "last", _ => pure (showOut (groupSelect true hdr kidx bs rows))
      | w, some v =>
        match asindices hdr v with
        | .error e => pure (showOut (.fail [hdr] e))
        | .ok vidx => pure (showOut (groupSelectExt (w == "max") hdr kidx vidx bs rows))
      | _, none => P.fail "gsel min/max needs a value field"
  | _, _ => pure "ERR unsupported"

/-- foldadd <key> <value> <bs|-> <table> -/
def opFoldAdd : P String := do
  let key ← pKey
  let value ← pKey
  let bs ← pOptNat
  let t ← pTable
  let outhdr : Row := [.str [107, 101, 121], .str [118, 97, 108, 117, 101]]
  match t, key, value with
  | hdr :: rows, some k, some v =>
    match asindices hdr k, asindices hdr v with
    | .ok kidx, .ok vidx => pure (showOut (foldAdd kidx vidx bs rows))
    | .error e, _ => pure (showOut (.fail [outhdr] e))
    | _, .error e => pure (showOut (.fail [outhdr] e))
  | _, _, _ => pure "ERR unsupported"

/-- mergedup <key (names)> <missing> <bs|-> <table> -/
def opMergeDup : P String := do
  let key ← pKey
  let missing ← pVal
  let bs ← pOptNat
  let t ← pTable
  match t, key with
  | hdr :: rows, some k =>
    let keyNames := k.filterMap (fun f => match f with | .name s => some s | .idx _ => none)
    let isKey (c : Val) : Bool := match c with | .str s => keyNames.contains s | _ => false
    -- value fields: header fields whose name is not a key name; each resolved with `flds.index(f)`
    let vfidx := (hdr.filter (fun c => !isKey c)).filterMap (fun c => hdr.findIdx? (fun d => Val.pyEq d c))
    let outhdr := k.map specCell ++ hdr.filter (fun c => !isKey c)
    match asindices hdr k with
    | .error e => pure (showOut (.fail [outhdr] e))
    | .ok kidx => pure (showOut (mergeDuplicates outhdr kidx vfidx missing bs rows))
  | _, _ => pure "ERR unsupported"

/-- dedup <duplicates|unique|distinct> <key|KN> <bs|-> <table>
    dedup distinctcount <key|KN> <bs|-> <field> <table>
    dedup conflicts <key> <bs|-> <missing> <all|include|exclude> <names K..|KN> <table> -/
def opDedup : P String := do
  let which ← tok
  let key ← pKey
  let bs ← pOptNat
  match which with
  | "duplicates" => do let t ← pTable; pure (showOut (dedupView .duplicates key bs t))
  | "unique" => do let t ← pTable; pure (showOut (dedupView .unique key bs t))
  | "distinct" => do let t ← pTable; pure (showOut (dedupView .distinct key bs t))
  | "distinctcount" => do
    let f ← pVal
    let t ← pTable
    pure (showOut (dedupView (.distinctCount f) key bs t))
  | "conflicts" => do
    let missing ← pVal
    let mode ← tok
    let names ← pKey
    let t ← pTable
    let hdr := t.headD []
    let ns := (names.getD []).filterMap (fun f => match f with | FSpec.name s => some s | FSpec.idx _ => none)
    let inNames (c : Val) : Bool := match c with | .str s => ns.contains s | _ => false
    let sel := (List.range hdr.length).filter (fun i =>
      match mode with
      | "include" => inNames (getCell hdr i)
      | "exclude" => !inNames (getCell hdr i)
      | _ => true)
    pure (showOut (dedupView (.conflicts sel missing) key bs t))
  | _ => P.fail s!"bad dedup op {which}"

/-- isunique <field> <table> -/
def opIsUnique : P String := do
  let key ← pKey
  let t ← pTable
  match t, key with
  | hdr :: rows, some k =>
    match asindices hdr k with
    | .error e => pure ("ERR " ++ e.code)
    | .ok idx => pure (showBool (isUniqueVals (rows.map (getKey idx))))
  | _, _ => pure "ERR unsupported"

def pPred : P Pred := do
  let t ← tok
  match t with
  | "eq" => return .eq (← pVal) | "ne" => return .ne (← pVal)
  | "lt" => return .lt (← pVal) | "le" => return .le (← pVal)
  | "gt" => return .gt (← pVal) | "ge" => return .ge (← pVal)
  | "rol" => do let a ← pVal; let b ← pVal; return .rangeOpenLeft a b
  | "ror" => do let a ← pVal; let b ← pVal; return .rangeOpenRight a b
  | "ro" => do let a ← pVal; let b ← pVal; return .rangeOpen a b
  | "rc" => do let a ← pVal; let b ← pVal; return .rangeClosed a b
  | "in" => do
    match (← pVal) with
    | .seq _ xs => return .isIn xs
    | _ => P.fail "in needs a sequence"
  | "notin" => do
    match (← pVal) with
    | .seq _ xs => return .notIn xs
    | _ => P.fail "notin needs a sequence"
  | "none" => return .isNone | "notnone" => return .notNone
  | "true" => return .isTrue | "false" => return .isFalse
  | _ => P.fail s!"bad predicate {t}"

/-- select <field> <missing> <complement> <pred…> <table> -/
def opSelect : P String := do
  let key ← pKey
  let missing ← pVal
  let compl ← pBool
  let p ← pPred
  let t ← pTable
  match t, key with
  | hdr :: _, some k =>
    match asindices hdr k with
    | .error e => pure (showOut (.fail [hdr] e))
    | .ok idx => pure (showOut (selectView idx missing p compl t))
  | [], some _ => pure (showOut (.fail [] .fieldSelection))
  | _, none => P.fail "select needs a field"

/-- rowlen <n> <complement> <table> -/
def opRowLen : P String := do
  let n ← pNat
  let compl ← pBool
  let t ← pTable
  match t with
  | [] => pure (showOut (.ok []))
  | hdr :: rows => pure (showOut (.ok (hdr :: rowSelect (fun r => r.length == n) compl rows)))

/-- search <complement> <field(s)|KN> <table> <mask table>: the mask holds, cell by cell, whether the pattern matches -/
def opSearch : P String := do
  let compl ← pBool
  let key ← pKey
  let t ← pTable
  let mask ← pTable
  match t with
  | [] => pure (showOut (.ok []))
  | hdr :: rows =>
    match (match key with | none => Except.ok none | some k => (asindices hdr k).map some) with
    | .error e => pure (showOut (.fail [hdr] e))
    | .ok idx =>
      let ms := (mask.drop 1).map (fun r => r.map Val.truthy)
      pure (showOut (.ok (hdr :: searchRows idx compl (rows.zip ms))))

/-- slice <start|-> <stop|-> <step|-> <table> ; tail <n> <table> ; skip <n> <table> -/
def opSlice : P String := do
  let start ← pOptNat
  let stop ← pOptNat
  let step ← pOptNat
  let t ← pTable
  match t with
  | [] => pure (showOut (.ok []))
  | hdr :: rows => pure (showOut (.ok (hdr :: islice (start.getD 0) stop (step.getD 1) rows)))

def opTail : P String := do
  let n ← pNat
  let t ← pTable
  match t with
  | [] => pure (showOut (.ok []))
  | hdr :: rows => pure (showOut (.ok (hdr :: tailRows n rows)))

def opSkip : P String := do
  let n ← pNat
  let t ← pTable
  pure (showOut (.ok (islice n none 1 t)))

def pPolicy : P Policy := do
  let t ← tok
  match t with
  | "s" => pure .suppress | "r" => pure .raise | "i" => pure .inline
  | _ => P.fail s!"bad policy {t}"

def pErrKind : P Err := do
  let t ← tok
  match t with
  | "Value" => pure .value | "Type" => pure .type | "Key" => pure .key | "Index" => pure .index
  | _ => P.fail s!"bad error kind {t}"

def pSeq : P (List Val) := do
  match (← pVal) with
  | .seq _ xs => pure xs
  | _ => P.fail "expected a sequence"

def outOf (hdr : Row) (res : List Row × Option Err) : Out := { rows := hdr :: res.1, err := res.2 }

/-- convert <policy> <errorvalue> <n> (<fieldidx> <errkind> <failset>)… <table> -/
def opConvert : P String := do
  let pol ← pPolicy
  let ev ← pVal
  let cs ← pList (do
    let i ← pNat
    let e ← pErrKind
    let fs ← pSeq
    pure (i, failOn fs e))
  let t ← pTable
  match t with
  | [] => pure (showOut (.ok []))
  | hdr :: rows =>
    let convs : Nat → Option Conv := fun i => (cs.find? (fun c => c.1 == i)).map (·.2)
    pure (showOut (outOf hdr (convertRows pol ev convs rows)))

/-- rowmap <policy> <errkind> <failset> <outhdr row> <table>:
    the mapper fails when the row's first cell is in the set, else returns row + [len(row)] -/
def opRowMap : P String := do
  let pol ← pPolicy
  let e ← pErrKind
  let fs ← pSeq
  let oh ← pRow
  let t ← pTable
  match t with
  | [] => pure (showOut (.ok []))
  | _ :: rows =>
    let f : Row → Except Err Row := fun r =>
      if fs.any (fun x => Val.pyEq x (getCell r 0)) then .error e else .ok (r ++ [intVal r.length])
    pure (showOut (outOf oh (rowmapRows pol f rows)))

/-- rowmapmany <policy> <errkind> <failset> <outhdr row> <table>:
    the generator yields the row, fails if its first cell is in the set, then yields the row again -/
def opRowMapMany : P String := do
  let pol ← pPolicy
  let e ← pErrKind
  let fs ← pSeq
  let oh ← pRow
  let t ← pTable
  match t with
  | [] => pure (showOut (.ok []))
  | _ :: rows =>
    let f : Row → List Row × Option Err := fun r =>
      if fs.any (fun x => Val.pyEq x (getCell r 0)) then ([r], some e) else ([r, r], none)
    pure (showOut (outOf oh (rowmapmanyRows pol f rows)))

/-- fieldmap <policy> <errorvalue> <n> (<outname> <srcidx> <errkind> <failset>)… <table> -/
def opFieldMap : P String := do
  let pol ← pPolicy
  let ev ← pVal
  let ms ← pList (do
    let name ← pVal
    let i ← pNat
    let e ← pErrKind
    let fs ← pSeq
    pure (name, (fun (r : Row) => failOn fs e (getCell r i))))
  let t ← pTable
  match t with
  | [] => pure (showOut (.ok []))
  | _ :: rows =>
    pure (showOut (outOf (ms.map (·.1)) (fieldmapRows pol ev (ms.map (·.2)) rows)))

/-! ### C12: row / field transforms -/

def pKeyReq : P (List FSpec) := do
  match (← pKey) with
  | some k => pure k
  | none => P.fail "field spec required"

def pFieldVal : P FieldVal := do
  let t ← tok
  match t with
  | "c" => return .const (← pVal)
  | "len" => return .rowLen
  | "cell" => return .cellPlus (← pNat)
  | _ => P.fail s!"bad field value {t}"

def pOptRow : P (Option Row) := do
  match (← peekTok) with
  | some "-" => do let _ ← tok; pure none
  | _ => do let r ← pRow; pure (some r)

def strLe (a b : Val) : Bool :=
  match a, b with
  | .str x, .str y => !natListLt y x
  | _, _ => true

def opXf : P String := do
  let name ← tok
  match name with
  | "cut" => do
    let spec ← pKeyReq; let m ← pVal; let t ← pTable
    pure (showOut (cutView spec m t))
  | "cutout" => do
    let spec ← pKeyReq; let m ← pVal; let t ← pTable
    pure (showOut (cutoutView spec m t))
  | "cat" => do
    let m ← pVal; let h ← pOptRow; let ts ← pList pTable
    pure (showOut (catView m h ts))
  | "stack" => do
    let m ← pVal; let trim ← pBool; let pad ← pBool; let ts ← pList pTable
    pure (showOut (stackView m trim pad ts))
  | "annex" => do
    let m ← pVal; let ts ← pList pTable
    pure (showOut (annexView m ts))
  | "addfield" => do
    let f ← pVal; let fv ← pFieldVal; let i ← pOptInt; let m ← pVal; let t ← pTable
    pure (showOut (addfieldView f fv i m t))
  | "addfields" => do
    let defs ← pList (do let f ← pVal; let fv ← pFieldVal; let i ← pOptInt; pure (f, fv, i))
    let m ← pVal; let t ← pTable
    pure (showOut (addfieldsView defs m t))
  | "addrownumbers" => do
    let a ← pInt; let b ← pInt; let f ← pVal; let t ← pTable
    pure (showOut (addrownumbersView a b f t))
  | "addcolumn" => do
    let f ← pVal; let col ← pSeq; let i ← pOptInt; let m ← pVal; let t ← pTable
    pure (showOut (addcolumnView f col i m t))
  | "setheader" => do let h ← pRow; let t ← pTable; pure (showOut (setheaderView h t))
  | "extendheader" => do let h ← pRow; let t ← pTable; pure (showOut (extendheaderView h t))
  | "pushheader" => do let h ← pRow; let t ← pTable; pure (showOut (pushheaderView h t))
  | "prefixheader" => do
    match (← pOptText) with
    | some p => do let t ← pTable; pure (showOut (prefixheaderView p t))
    | none => P.fail "prefix required"
  | "suffixheader" => do
    match (← pOptText) with
    | some p => do let t ← pTable; pure (showOut (suffixheaderView p t))
    | none => P.fail "suffix required"
  | "rename" => do
    let strict ← pBool
    let spec ← pList (do let f ← pFSpec; let v ← pVal; pure (f, v))
    let t ← pTable
    pure (showOut (renameView spec strict t))
  | "sortheader" => do
    let rev ← pBool; let m ← pVal; let t ← pTable
    match t with
    | [] => pure (showOut (.ok []))
    | hdr :: rows =>
      -- `sorted(hdr, reverse=rev)`: descending order keeps equal names in their original order, too
      let shdr := if rev then hdr.mergeSort (fun a b => strLe b a) else hdr.mergeSort strLe
      let spec := shdr.filterMap (fun c => match c with | .str s => some (FSpec.name s) | _ => none)
      match asindices hdr spec with
      | .error e => pure (showOut (.fail [] e))
      | .ok idx => pure (showOut (.ok (shdr :: pickRows idx m rows)))
  | "movefield" => do
    let f ← pVal; let i ← pInt; let m ← pVal; let t ← pTable
    let hdr := t.headD []
    -- by position (petl, since the repair of movefield on duplicate field names): the first field of that name moves,
    -- every other field — also another one of the same name — stays
    match hdr.findIdx? (fun c => Val.pyEq c f) with
    | some fidx =>
      let idx := moveFieldIdx hdr.length fidx i
      pure (showOut (.ok (idx.map (padGet .none hdr) :: pickRows idx m (t.drop 1))))
    | none =>
      let outhdr := pyInsert hdr (some i) f
      let spec := outhdr.filterMap (fun c => match c with | .str s => some (FSpec.name s) | _ => none)
      match asindices hdr spec with
      | .error e => pure (showOut (.fail [outhdr] e))
      | .ok idx => pure (showOut (.ok (outhdr :: pickRows idx m (t.drop 1))))
  | "filldown" => do
    let fields ← pKey; let m ← pVal; let t ← pTable
    match t with
    | [] => pure (showOut (.ok []))
    | [hdr] => pure (showOut (.ok [hdr]))
    | hdr :: first :: rows =>
      let spec := match fields with
        | some k => k
        | none => hdr.filterMap (fun c => match c with | .str s => some (FSpec.name s) | _ => none)
      match asindices hdr spec with
      | .error e => pure (showOut (.fail [hdr] e))
      | .ok idx => pure (showOut (.ok (hdr :: first :: filldownRows idx m first rows)))
  | "fillright" => do
    let m ← pVal; let t ← pTable
    match t with
    | [] => pure (showOut (.ok []))
    | hdr :: rows => pure (showOut (.ok (hdr :: rows.map (fillrightRow m none))))
  | "fillleft" => do
    let m ← pVal; let t ← pTable
    match t with
    | [] => pure (showOut (.ok []))
    | hdr :: rows => pure (showOut (.ok (hdr :: rows.map (fillleftRow m))))
  | "values" => do
    let spec ← pKeyReq; let m ← pVal; let t ← pTable
    let hdr := t.headD []
    match asindices hdr spec with
    | .error e => pure (showOut (.fail [] e))
    | .ok idx =>
      if idx.isEmpty then pure (showOut (.fail [] .assertion)) else
      pure (showOut (.ok ((valuesOf idx m (t.drop 1)).map (fun v => [v]))))
  | "records" => do
    let m ← pVal; let t ← pTable
    match t with
    | [] => pure (showOut (.ok []))
    | hdr :: rows => pure (showOut (.ok (recordsOf hdr.length m rows)))
  | "columns" => do
    let m ← pVal; let t ← pTable
    let hdr := t.headD []
    pure (showOut (.ok (columnsOf hdr.length m (t.drop 1))))
  | _ => P.fail s!"bad transform {name}"

/-! ### C14: reshape -/

def valLe (a b : Val) : Bool := !Val.lt b a

def distinctSorted (vs : List Val) : List Val := (dedupVals vs).mergeSort valLe

def opRs : P String := do
  let name ← tok
  match name with
  | "melt" => do
    let key ← pKeyReq; let vars ← pKeyReq; let vf ← pVal; let valf ← pVal; let t ← pTable
    match t with
    | [] => pure (showOut (.ok []))
    | hdr :: rows =>
      match asindices hdr key, asindices hdr vars with
      | .ok kidx, .ok vidx =>
        let outhdr := kidx.map (getCell hdr) ++ [vf, valf]
        pure (showOut (outOf outhdr (meltRows kidx (vidx.map (fun i => (i, getCell hdr i))) rows)))
      | .error e, _ => pure (showOut (.fail [] e))
      | _, .error e => pure (showOut (.fail [] e))
  | "recast" => do
    let key ← pKeyReq; let varf ← pVal; let valf ← pVal; let m ← pVal; let bs ← pOptNat; let t ← pTable
    match t with
    | [] => pure (showOut (.ok []))
    | hdr :: rows =>
      match asindices hdr key, hdrIndex hdr varf, hdrIndex hdr valf with
      | .ok kidx, some vi, some wi =>
        let variables := distinctSorted (rows.map (fun r => getCell r vi))
        pure (showOut (.ok ((kidx.map (getCell hdr) ++ variables) :: recastRows kidx vi wi variables m bs rows)))
      | _, _, _ => pure "ERR unsupported"
  | "transpose" => do let t ← pTable; pure (showOut (.ok (transposeT t)))
  | "flatten" => do let t ← pTable; pure (showOut (.ok [flattenVals (t.drop 1)]))
  | "unflatten" => do
    let n ← pNat; let m ← pVal; let vals ← pSeq
    let hdr : Row := (List.range n).map (fun i => Val.str (("f" ++ toString i).toList.map Char.toNat))
    pure (showOut (.ok (hdr :: unflattenRows n m vals)))
  | "pivot" => do
    let f1 ← pNat; let f2 ← pNat; let f3 ← pNat; let agg ← pAggFn; let m ← pVal; let bs ← pOptNat; let t ← pTable
    match t with
    | [] => pure "ERR unsupported"
    | hdr :: rows =>
      let f2vals := distinctSorted (rows.map (fun r => padGet .none r f2))
      pure (showOut (outOf (getCell hdr f1 :: f2vals) (pivotRows f1 f2 f3 f2vals agg m bs rows)))
  | "unpack" => do
    let fi ← pNat; let n ← pNat; let names ← pOptRow; let incl ← pBool; let m ← pVal; let t ← pTable
    match t with
    | [] => pure "ERR unsupported"
    | hdr :: rows =>
      let fname := getCell hdr fi
      let newf : Row := match names with
        | some ns => ns
        | none => (List.range n).map (fun i => match fname with
            | .str s => Val.str (s ++ (toString (i + 1)).toList.map Char.toNat)
            | v => v)
      let outhdr := (if incl then hdr else hdr.eraseIdx fi) ++ newf
      let rec go : List Row → List Row × Option Err
        | [] => ([], none)
        | r :: rs => match unpackRow fi n incl m r with
          | .error e => ([], some e)
          | .ok o => let (rest, e) := go rs; (o :: rest, e)
      pure (showOut (outOf outhdr (go rows)))
  | "unpackdict" => do
    let fi ← pNat; let incl ← pBool; let m ← pVal
    let keys? ← (do match (← peekTok) with
      | some "-" => do let _ ← tok; pure (none : Option (List Val))
      | _ => do let ks ← pSeq; pure (some ks))
    let t ← pTable
    match t with
    | [] => pure "ERR unsupported"
    | hdr :: rows =>
      let keys := match keys? with
        | some ks => ks
        | none => distinctSorted (rows.flatMap (fun r => match getCell r fi with
            | .seq _ items => items.filterMap (fun it => match it with | .seq _ [k, _] => some k | _ => none)
            | _ => []))
      let outhdr := (if incl then hdr else hdr.eraseIdx fi) ++ keys
      pure (showOut (.ok (outhdr :: rows.map (unpackdictRow fi keys incl m))))
  | "expand" => do
    let fi ← pNat; let incl ← pBool; let newf ← pRow; let t ← pTable; let parts ← pTable
    match t with
    | [] => pure "ERR unsupported"
    | hdr :: rows =>
      let outhdr := (if incl then hdr else hdr.eraseIdx fi) ++ newf
      pure (showOut (.ok (outhdr :: (rows.zip parts).map (fun (r, p) => expandRow fi incl r p))))
  | "splitdown" => do
    let fi ← pNat; let t ← pTable; let parts ← pTable
    match t with
    | [] => pure (showOut (.ok []))
    | hdr :: rows =>
      pure (showOut (.ok (hdr :: ((rows.zip parts).map (fun (r, p) => splitdownRow hdr.length fi r p)).flatten)))
  | "fromcolumns" => do
    let m ← pVal; let cols ← pTable
    let hdr : Row := (List.range cols.length).map (fun i => Val.str (("f" ++ toString i).toList.map Char.toNat))
    pure (showOut (.ok (hdr :: fromColumnsRows m cols)))
  | _ => P.fail s!"bad reshape op {name}"

/-! ### C01: view machines driven by a schedule -/

def pSched : P (List SOp) := do
  let n ← pNat
  let mut ops : Array SOp := #[]
  for _ in [0:n] do
    let t ← tok
    if t == "n" then ops := ops.push .new
    else if t.front == 'x' then
      match (t.drop 1).toString.toNat? with
      | some i => ops := ops.push (.next i)
      | none => P.fail s!"bad schedule op {t}"
    else P.fail s!"bad schedule op {t}"
  return ops.toList

/-- per-operation trace: `.` for new, the row or STOP for next (BAD if the iterator does not exist) -/
def traceRun {σ ι : Type} (m : Machine σ ι) (crashed : ι → Bool) (sched : List SOp) : List String × RunState σ ι :=
  sched.foldl (fun (acc : List String × RunState σ ι) op =>
    let st := acc.2
    match op with
    | .new => (acc.1 ++ ["."], m.apply st op)
    | .next i =>
      match st.iters[i]? with
      | none => (acc.1 ++ ["BAD"], st)
      | some it =>
        let r := m.step st.shared it
        let st' := m.apply st op
        let s := match r.2.2 with
          | some row => showRow row
          | none => if crashed r.2.1 then "CRASH" else "STOP"
        (acc.1 ++ [s], st')) ([], m.start)

def opMach : P String := do
  let kind ← tok
  match kind with
  | "cache" => do
    let guard ← pBool; let n ← pOptNat; let inner ← pTable; let sched ← pSched
    let (tr, st) := traceRun (cacheMachine guard inner n) (fun _ => false) sched
    pure (" | ".intercalate tr ++ s!" # cache={st.shared.cache.length} complete={showBool st.shared.complete}")
  | "dictsgen" => do
    let rows ← pTable; let sched ← pSched
    let (tr, _) := traceRun (dictsGenMachine rows) (fun _ => false) sched
    pure (" | ".intercalate tr)
  | "sort" => do
    let cacheOn ← pBool; let out ← pTable; let sched ← pSched
    let (tr, _) := traceRun (sortViewMachine cacheOn out) (fun _ => false) sched
    pure (" | ".intercalate tr)
  | "sortold" => do
    let out ← pTable; let sched ← pSched
    let (tr, _) := traceRun (sortViewMachineOld out) (fun it => match it with | .crashed => true | _ => false) sched
    pure (" | ".intercalate tr)
  | "pure" => do
    let rows ← pTable; let sched ← pSched
    let (tr, _) := traceRun (pureMachine rows) (fun _ => false) sched
    pure (" | ".intercalate tr)
  | _ => P.fail s!"bad machine {kind}"

/-! ### C18: temp-file histories -/

def showTFOut : TFOut → String
  | .none => "." | .row k => s!"r{k}" | .stop => "STOP" | .raised => "RAISED" | .crash => "CRASH"

/-- tf <nrows> <buffersize> <cache> <failAt|-> <n> ops…  with ops n | x<i> | d<i> | v -/
def opTf : P String := do
  let nrows ← pNat; let bs ← pNat; let cache ← pBool; let failAt ← pOptNat
  let n ← pNat
  let mut ops : Array TFOp := #[]
  for _ in [0:n] do
    let t ← tok
    if t == "n" then ops := ops.push .new
    else if t == "v" then ops := ops.push .dropView
    else
      match (t.drop 1).toString.toNat? with
      | some i => ops := ops.push (if t.front == 'x' then .next i else .drop i)
      | none => P.fail s!"bad op {t}"
  let p : TFParams := { nrows := nrows, buffersize := bs, cache := cache, failAt := failAt }
  let res := ops.toList.foldl (fun (acc : TFState × List String) op =>
    let (s', o) := tfStep p acc.1 op
    (s', acc.2 ++ [s!"{showTFOut o}:{s'.files.length}"])) (({} : TFState), [])
  pure (" | ".intercalate res.2)

/-- db <truncate> <commit> <closes> <failAt|-> <prior rows> <rows> -/
def opDb : P String := do
  let truncate ← pBool; let commit ← pBool; let closes ← pBool; let failAt ← pOptNat
  let prior ← pTable; let rows ← pTable
  let ops := loadOps truncate commit closes rows failAt
  let d := ({ committed := prior, pending := none } : Db).run ops
  pure (" ".intercalate (ops.map DbOp.show) ++ " # committed=" ++ showTable d.committed ++
        " pending=" ++ (match d.pending with | none => "none" | some p => toString p.length))

/-- lazy <map|filter|look> <k> <table>: first k output rows of the streaming operator and the number
    of source rows it pulled.  map: append the first cell; filter: keep rows whose first cell is truthy
    (source = data rows); look: one row of lookahead, appends (prev[0], next[0]) (source incl. header) -/
def opLazy : P String := do
  let kind ← tok
  let k ← pNat
  let t ← pTable
  let fst (r : Row) : Val := getCell r 0
  let ofst (r : Option Row) : Val := match r with | some r => getCell r 0 | none => .none
  let res ← match kind with
    | "map" => pure (runLazy (mapT (fun r => r ++ [fst r])) k () t)
    | "filter" => pure (runLazy (filterT (fun r => (fst r).truthy)) k () t)
    | "look" => pure (runLazy (lookaheadT (fun p c n => c ++ [.seq false [ofst p, ofst n]])) k (0, none, none) t)
    | _ => P.fail s!"bad lazy kind {kind}"
  pure (toString res.2 ++ " " ++ showTable res.1)

/-- csv w <qa> <d> <q> <table of text cells>  ->  the text `csv.writer` produces (as one S token)
    csv r <d> <q> <text as S token>          ->  the records `csv.reader` delivers, then `ERR` if the machine flagged an error -/
def opCsv : P String := do
  let which ← tok
  match which with
  | "w" =>
    let qa ← pBool
    let d ← pNat
    let q ← pNat
    let t ← pTable
    let recs : List Csv.Record := t.map (fun r => r.map (fun v => match v with | .str s => s | _ => []))
    pure ("S" ++ showCps (Csv.writeAll qa d q recs))
  | "r" =>
    let d ← pNat
    let q ← pNat
    let v ← pVal
    match v with
    | .str text =>
      let ps := Csv.run d q (.none, Csv.St.init) text
      let recs := Csv.finish ps
      let out := showTable (recs.map (fun r => r.map Val.str))
      pure (if ps.2.err then out ++ " ERR csv" else out)
    | _ => P.fail "csv r needs text"
  | _ => P.fail s!"bad csv op {which}"

def dispatch (op : String) : Option (P String) :=
  match op with
  | "cmp" => some opCmp
  | "sort" => some opSort
  | "mergesort" => some opMergeSort
  | "mergesortH" => some opMergeSortH
  | "issorted" => some opIsSorted
  | "join" => some opJoin
  | "crossjoin" => some opCrossJoin
  | "hashjoin" => some opHashJoin
  | "lookup" => some opLookup
  | "setop" => some opSetOp
  | "agg" => some opAgg
  | "multiagg" => some opMultiAgg
  | "gcdv" => some opGcdv
  | "gsel" => some opGroupSelect
  | "foldadd" => some opFoldAdd
  | "mergedup" => some opMergeDup
  | "dedup" => some opDedup
  | "isunique" => some opIsUnique
  | "select" => some opSelect
  | "rowlen" => some opRowLen
  | "search" => some opSearch
  | "slice" => some opSlice
  | "tail" => some opTail
  | "skip" => some opSkip
  | "convert" => some opConvert
  | "rowmap" => some opRowMap
  | "rowmapmany" => some opRowMapMany
  | "fieldmap" => some opFieldMap
  | "xf" => some opXf
  | "rs" => some opRs
  | "mach" => some opMach
  | "tf" => some opTf
  | "db" => some opDb
  | "lazy" => some opLazy
  | "csv" => some opCsv
  | _ => none

end Petl
