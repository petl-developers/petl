/-
  Petl.Sort — model of petl.transform.sorts: SortView._iternocache (in-memory sort or external
  chunk sort + k-way merge), mergesort, issorted.
-/
import Petl.Fields
namespace Petl

variable {α : Type}

/-! ### k-way merge: repeatedly take the head of the *first* run whose head is minimal.
    This is `heapq.merge` on `_Keyed` items (ties broken by iterable order) and petl's own
    shortlist merge (`min`/`max` return the first extremal element). -/

abbrev Run (α : Type) := α × List α
def Run.toList (r : Run α) : List α := r.1 :: r.2
def flat (runs : List (Run α)) : List α := (runs.map Run.toList).flatten

def toRuns : List (List α) → List (Run α)
  | [] => []
  | [] :: rest => toRuns rest
  | (x :: xs) :: rest => (x, xs) :: toRuns rest

def pickMin (le : α → α → Bool) : List (Run α) → Option (Nat × α)
  | [] => none
  | (h, _) :: rest =>
    match pickMin le rest with
    | none => some (0, h)
    | some (j, m) => if le h m then some (0, h) else some (j + 1, m)

def advance : List (Run α) → Nat → List (Run α)
  | [], _ => []
  | (_, []) :: rest, 0 => rest
  | (_, t :: ts) :: rest, 0 => (t, ts) :: rest
  | r :: rest, i + 1 => r :: advance rest i

def total (runs : List (Run α)) : Nat := (runs.map (fun r => r.2.length + 1)).sum

theorem total_advance_lt (le : α → α → Bool) :
    ∀ (runs : List (Run α)) i m, pickMin le runs = some (i, m) → total (advance runs i) < total runs := by
  intro runs i m h
  fun_induction pickMin le runs generalizing i m with
  | case1 => cases h
  | case2 hd tl | case3 hd tl =>
    cases h
    cases tl with
    | nil => exact Nat.lt_add_of_pos_left (Nat.succ_pos _)
    | cons t ts => exact Nat.add_lt_add_right (Nat.lt_succ_self _) _
  | case4 hd tl rest j m' hq _ ih =>
    cases h
    rw [advance]
    exact Nat.add_lt_add_left (ih j m' hq) _

def kmerge (le : α → α → Bool) (runs : List (Run α)) : List α :=
  match _h : pickMin le runs with
  | none => []
  | some (i, m) => m :: kmerge le (advance runs i)
termination_by total runs
decreasing_by exact total_advance_lt le runs i m _h

/-! ### chunking: `rows = list(islice(it, 0, buffersize))` repeated until empty -/

def chunksAux (b : Nat) : Nat → List α → List (List α)
  | 0, _ => []
  | fuel + 1, l => if l.isEmpty then [] else l.take b :: chunksAux b fuel (l.drop b)

def chunks (b : Nat) (l : List α) : List (List α) := chunksAux b l.length l

/-- the data-row part of `SortView._iternocache` for a row relation `le`
    (`le a b` = "a may come before b" = `not key(b) < key(a)`, flipped for reverse) -/
def sortRows (le : α → α → Bool) (buffersize : Option Nat) (rows : List α) : List α :=
  match buffersize with
  | none => rows.mergeSort le
  | some b =>
    let first := rows.take b
    if first.length < b then first.mergeSort le
    else kmerge le (toRuns ((chunks b rows).map (fun c => c.mergeSort le)))

/-- the relation a sort with key indices `idx` uses -/
def rowLe (idx : List Nat) (reverse : Bool) (a b : Row) : Bool :=
  if reverse then !Val.lt (getKey idx a) (getKey idx b) else !Val.lt (getKey idx b) (getKey idx a)

/-- `sort(table, key, reverse, buffersize)`: every pass of the view (cache on or off) -/
def sortView (t : Table) (key : Option (List FSpec)) (reverse : Bool) (buffersize : Option Nat) : Out :=
  match t with
  | [] =>
    match key with
    | none => .ok []
    | some k =>
      match asindices [] k with
      | .error e => .fail [[]] e
      | .ok idx => .ok ([] :: sortRows (rowLe idx reverse) buffersize [])
  | hdr :: rows =>
    let idx? : Except Err (List Nat) :=
      match key with
      | some k => asindices hdr k
      | none => if hdr.isEmpty then .error .type else .ok (List.range hdr.length)
    match idx? with
    | .error e => .fail [hdr] e
    | .ok idx => .ok (hdr :: sortRows (rowLe idx reverse) buffersize rows)

/-- merging already sorted tables with one header (the core of `mergesort`) -/
def mergeSorted (le : α → α → Bool) (tables : List (List α)) : List α :=
  kmerge le (toRuns tables)

/-- `issorted(table, key, reverse, strict)` on the data rows -/
def isSortedBy (idx : List Nat) (reverse strict : Bool) : List Row → Bool
  | [] => true
  | [_] => true
  | a :: b :: rest =>
    let ka := getKey idx a
    let kb := getKey idx b
    let ok :=
      match reverse, strict with
      | true, true => Val.lt kb ka
      | true, false => Val.le kb ka
      | false, true => Val.gt kb ka
      | false, false => Val.ge kb ka
    ok && isSortedBy idx reverse strict (b :: rest)

end Petl
