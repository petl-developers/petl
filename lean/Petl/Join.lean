/-
  Petl.Join — model of petl.transform.joins: sort-merge join family.

  `mergeGroups` is the merge loop of `iterjoin` over the key groups that `itertools.groupby`
  forms on the two key-sorted inputs: three branches (left key smaller / right key smaller /
  equal) and the two tails.  `nl*` are the relational definitions (nested loops).
-/
import Petl.Group
namespace Petl

/-- `stack(table, missing)` on the data rows: pad/trim to the header's width -/
def stackRows (w : Nat) (missing : Val) (rows : List Row) : List Row := rows.map (squareRow w missing)

/-- parameters of one join: how to combine / pad rows -/
structure JoinOps where
  pair : Row → Row → Row          -- matched left row, right row
  padL : Row → Row                -- unmatched left row
  padR : Row → Row                -- unmatched right row

def crossRows (ops : JoinOps) (lg rg : List Row) : List Row :=
  lg.flatMap (fun l => rg.map (fun r => ops.pair l r))

/-- the merge loop of `iterjoin` -/
def mergeGroups (ops : JoinOps) (lo ro : Bool) :
    List (Val × List Row) → List (Val × List Row) → List Row
  | [], rs => if ro then rs.flatMap (fun g => g.2.map ops.padR) else []
  | l :: ls, [] => if lo then (l :: ls).flatMap (fun g => g.2.map ops.padL) else []
  | (lk, lg) :: ls, (rk, rg) :: rs =>
    if Val.lt lk rk then
      (if lo then lg.map ops.padL else []) ++ mergeGroups ops lo ro ls ((rk, rg) :: rs)
    else if Val.gt lk rk then
      (if ro then rg.map ops.padR else []) ++ mergeGroups ops lo ro ((lk, lg) :: ls) rs
    else
      crossRows ops lg rg ++ mergeGroups ops lo ro ls rs
termination_by ls rs => ls.length + rs.length

/-- the merge loop of `iterantijoin`: left groups without a partner -/
def antiGroups : List (Val × List Row) → List (Val × List Row) → List Row
  | [], _ => []
  | l :: ls, [] => (l :: ls).flatMap (fun g => g.2)
  | (lk, lg) :: ls, (rk, rg) :: rs =>
    if Val.lt lk rk then lg ++ antiGroups ls ((rk, rg) :: rs)
    else if Val.gt lk rk then antiGroups ((lk, lg) :: ls) rs
    else antiGroups ls rs
termination_by ls rs => ls.length + rs.length

/-- the merge loop of `iterlookupjoin`: each left row with the first row of the matching right group -/
def lookupGroups (ops : JoinOps) : List (Val × List Row) → List (Val × List Row) → List Row
  | [], _ => []
  | l :: ls, [] => (l :: ls).flatMap (fun g => g.2.map ops.padL)
  | (lk, lg) :: ls, (rk, rg) :: rs =>
    if Val.lt lk rk then lg.map ops.padL ++ lookupGroups ops ls ((rk, rg) :: rs)
    else if Val.gt lk rk then lookupGroups ops ((lk, lg) :: ls) rs
    else (match rg with
          | [] => lg.map ops.padL
          | r :: _ => lg.map (fun l => ops.pair l r)) ++ lookupGroups ops ls rs
termination_by ls rs => ls.length + rs.length

/-! ### relational definitions -/

def nlInner (ops : JoinOps) (kl kr : Row → Val) (L R : List Row) : List Row :=
  L.flatMap (fun l => (R.filter (fun r => Val.eq (kl l) (kr r))).map (fun r => ops.pair l r))

/-- left rows without any partner -/
def unmatchedL (kl kr : Row → Val) (L R : List Row) : List Row :=
  L.filter (fun l => !(R.any (fun r => Val.eq (kl l) (kr r))))

def unmatchedR (kl kr : Row → Val) (L R : List Row) : List Row :=
  R.filter (fun r => !(L.any (fun l => Val.eq (kl l) (kr r))))

/-- left outer join in nested-loop form: each left row followed by its partners, or padded -/
def nlLeft (ops : JoinOps) (kl kr : Row → Val) (L R : List Row) : List Row :=
  L.flatMap (fun l =>
    let ms := R.filter (fun r => Val.eq (kl l) (kr r))
    if ms.isEmpty then [ops.padL l] else ms.map (fun r => ops.pair l r))

def nlLookup (ops : JoinOps) (kl kr : Row → Val) (L R : List Row) : List Row :=
  L.map (fun l =>
    match R.find? (fun r => Val.eq (kl l) (kr r)) with
    | some r => ops.pair l r
    | none => ops.padL l)

/-! ### the concrete row operations of `iterjoin` -/

def pickIdx (idx : List Nat) (r : Row) : Row := idx.map (getCell r)

/-- indices of the right table's non-key fields -/
def rvind (rw : Nat) (rkind : List Nat) : List Nat := (List.range rw).filter (fun i => !rkind.contains i)

def setCells (row : Row) : List (Nat × Val) → Row
  | [] => row
  | (i, v) :: rest => setCells (row.set i v) rest

def petlJoinOps (lw : Nat) (lkind rkind rv : List Nat) (missing : Val) : JoinOps where
  pair := fun l r => l ++ pickIdx rv r
  padL := fun l => l ++ List.replicate rv.length missing
  padR := fun r => setCells (List.replicate lw missing) (lkind.zip (pickIdx rkind r)) ++ pickIdx rv r

def prefixHdr (p : Option (List Nat)) (hdr : Row) : Row :=
  match p with
  | none => hdr
  | some p => hdr.map (fun f => match f with | .str s => .str (p ++ s) | v => v)

inductive JoinKind where
  | inner | left | right | outer | anti | lookup
deriving DecidableEq, Repr

/-- join / leftjoin / rightjoin / outerjoin / antijoin / lookupjoin on tables with headers -/
def joinView (kind : JoinKind) (missing : Val) (lprefix rprefix : Option (List Nat))
    (lkey rkey : List FSpec) (bs : Option Nat) (L R : Table) : Out :=
  match L, R with
  | lhdr :: lrows, rhdr :: rrows =>
    match asindices lhdr lkey, asindices rhdr rkey with
    | .error e, _ => .fail (if kind == .anti then [lhdr] else []) e
    | .ok _, .error e => .fail (if kind == .anti then [lhdr] else []) e
    | .ok lkind, .ok rkind =>
      let lw := lhdr.length
      let rw := rhdr.length
      -- antijoin does not square up its inputs
      let ls := if kind == .anti then lrows else stackRows lw missing lrows
      let rs := if kind == .anti then rrows else stackRows rw missing rrows
      let lsorted := sortRows (rowLe lkind false) bs ls
      let rsorted := sortRows (rowLe rkind false) bs rs
      let lg := groups (getKey lkind) lsorted
      let rg := groups (getKey rkind) rsorted
      let rv := rvind rw rkind
      let ops := petlJoinOps lw lkind rkind rv missing
      let outhdr := prefixHdr lprefix lhdr ++ prefixHdr rprefix (pickIdx rv rhdr)
      match kind with
      | .inner => .ok (outhdr :: mergeGroups ops false false lg rg)
      | .left => .ok (outhdr :: mergeGroups ops true false lg rg)
      | .right => .ok (outhdr :: mergeGroups ops false true lg rg)
      | .outer => .ok (outhdr :: mergeGroups ops true true lg rg)
      | .anti => .ok (lhdr :: antiGroups lg rg)
      | .lookup => .ok (outhdr :: lookupGroups ops lg rg)
  | _, _ => .fail [] .runtime

/-- crossjoin of stacked tables (no prefix) -/
def crossProduct : List (List Row) → List Row
  | [] => [[]]
  | t :: ts => t.flatMap (fun r => (crossProduct ts).map (fun rest => r ++ rest))

def crossJoinView (missing : Val) (ts : List Table) : Out :=
  let hdr := (ts.map (fun t => t.headD [])).flatten
  let datas := ts.map (fun t => stackRows (t.headD []).length missing (t.drop 1))
  .ok (hdr :: crossProduct datas)

end Petl
