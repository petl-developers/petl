/-
  Petl.Basics — models of the row/field level transforms of petl.transform.basics, headers, fills
  and the accessors of petl.util.base / materialise (data rows only unless stated; headers
  are computed alongside).
-/
import Petl.ErrPolicy
import Petl.Group
namespace Petl

variable {α : Type}

/-- Python `list.insert(i, x)`: negative indices count from the end, out-of-range clamps -/
def pyInsertPos (n : Nat) (i : Int) : Nat :=
  if i < 0 then (if (n : Int) + i < 0 then 0 else ((n : Int) + i).toNat) else min i.toNat n

def pyInsert (l : List α) (i : Option Int) (x : α) : List α :=
  let j := match i with | none => l.length | some i => pyInsertPos l.length i
  l.take j ++ x :: l.drop j

/-- `movefield`: the positions of the output fields — the field at `fidx` taken out and put back at `i` (Python's
    `list.insert`), every other position kept in order -/
def moveFieldIdx (n fidx : Nat) (i : Int) : List Nat :=
  pyInsert ((List.range n).filter (fun j => j != fidx)) (some i) fidx

/-- a cell read with padding -/
def padGet (missing : Val) (r : Row) (i : Nat) : Val := r.getD i missing

/-- `cut` / `cutout` / `sortheader` / `movefield` data rows: pick the given indices, padding short rows -/
def pickRows (idx : List Nat) (missing : Val) (rows : List Row) : List Row :=
  rows.map (fun r => idx.map (padGet missing r))

def cutView (spec : List FSpec) (missing : Val) (t : Table) : Out :=
  let hdr := t.headD []
  match asindices hdr spec with
  | .error e => .fail [] e
  | .ok idx => .ok (idx.map (padGet .none hdr) :: pickRows idx missing (t.drop 1))

def cutoutView (spec : List FSpec) (missing : Val) (t : Table) : Out :=
  let hdr := t.headD []
  match asindices hdr spec with
  | .error e => .fail [] e
  | .ok out =>
    let idx := (List.range hdr.length).filter (fun i => !out.contains i)
    .ok (idx.map (padGet .none hdr) :: pickRows idx missing (t.drop 1))

/-- index of the first header cell equal (raw ==) to `h` -/
def hdrIndex (hdr : Row) (h : Val) : Option Nat := hdr.findIdx? (fun c => Val.pyEq c h)

/-- `cat`: output header = union of the headers in order of first appearance; cells aligned by name -/
def catHeader (hdrs : List Row) : Row :=
  hdrs.foldl (fun out hdr => hdr.foldl (fun o h => if o.any (fun c => Val.pyEq c h) then o else o ++ [h]) out) []

def catRows (outhdr : Row) (missing : Val) (t : Table) : List Row :=
  let hdr := t.headD []
  (t.drop 1).map (fun r => outhdr.map (fun h =>
    match hdrIndex hdr h with
    | some i => padGet missing r i
    | none => missing))

def catView (missing : Val) (header : Option Row) (ts : List Table) : Out :=
  let outhdr := match header with | some h => h | none => catHeader (ts.map (fun t => t.headD []))
  .ok (outhdr :: (ts.map (catRows outhdr missing)).flatten)

/-- `stack(*tables, missing, trim, pad)` -/
def stackRow (w : Nat) (missing : Val) (trim pad : Bool) (r : Row) : Row :=
  let r1 := if trim then r.take w else r
  if pad && r1.length < w then r1 ++ List.replicate (w - r1.length) missing else r1

def stackView (missing : Val) (trim pad : Bool) (ts : List Table) : Out :=
  match ts with
  | [] => .fail [] .index
  | t0 :: _ =>
    let hdr := t0.headD []
    .ok (hdr :: (ts.map (fun t => (t.drop 1).map (stackRow hdr.length missing trim pad))).flatten)

/-- `annex`: tables side by side; shorter tables padded with rows of `missing` -/
def annexRows (missing : Val) : Nat → List (Nat × List Row) → List Row
  | 0, _ => []
  | n + 1, parts =>
    if parts.all (fun p => p.2.isEmpty) then [] else
    ((parts.map (fun p => match p.2 with
        | [] => List.replicate p.1 missing
        | r :: _ => squareRow p.1 missing r)).flatten)
      :: annexRows missing n (parts.map (fun p => (p.1, p.2.drop 1)))

def annexView (missing : Val) (ts : List Table) : Out :=
  let hdrs := ts.map (fun t => t.headD [])
  let parts := ts.map (fun t => ((t.headD []).length, t.drop 1))
  let n := (parts.map (fun p => p.2.length)).foldl max 0
  .ok (hdrs.flatten :: annexRows missing n parts)

/-- value of an added field: a constant or a catalogue function of the (squared) row -/
inductive FieldVal where
  | const (v : Val)
  | rowLen                 -- lambda row: len(row)
  | cellPlus (i : Nat)     -- lambda row: [row[i]]  (wraps the cell in a list)

def FieldVal.eval (f : FieldVal) (r : Row) : Val :=
  match f with
  | .const v => v
  | .rowLen => intVal r.length
  | .cellPlus i => .seq true [getCell r i]

/-- `addfield(table, field, value, index, missing)`: square up, then `insert` -/
def addfieldView (field : Val) (value : FieldVal) (index : Option Int) (missing : Val) (t : Table) : Out :=
  let hdr := t.headD []
  .ok (pyInsert hdr index field ::
       (t.drop 1).map (fun r => let r' := squareRow hdr.length missing r; pyInsert r' index (value.eval r')))

/-- `addfields`: the definitions are inserted one after the other -/
def addfieldsView (defs : List (Val × FieldVal × Option Int)) (missing : Val) (t : Table) : Out :=
  let hdr := t.headD []
  let outhdr := defs.foldl (fun h d => pyInsert h d.2.2 d.1) hdr
  .ok (outhdr :: (t.drop 1).map (fun r =>
        let r0 := squareRow hdr.length missing r
        defs.foldl (fun o d => pyInsert o d.2.2 (d.2.1.eval r0)) r0))

/-- `addrownumbers(table, start, step, field)` -/
def addrownumbersRows (start step : Int) : Nat → List Row → List Row
  | _, [] => []
  | k, r :: rs => (intVal (start + step * k) :: r) :: addrownumbersRows start step (k + 1) rs

def addrownumbersView (start step : Int) (field : Val) (t : Table) : Out :=
  .ok ((field :: t.headD []) :: addrownumbersRows start step 0 (t.drop 1))

/-- `addcolumn(table, field, col, index, missing)`: zip_longest of rows and column values -/
def addcolumnRows (w : Nat) (index : Option Int) (missing : Val) : List Row → List Val → List Row
  | [], [] => []
  | r :: rs, [] => pyInsert r index missing :: addcolumnRows w index missing rs []
  | [], v :: vs => pyInsert (List.replicate w missing) index v :: addcolumnRows w index missing [] vs
  | r :: rs, v :: vs => pyInsert r index v :: addcolumnRows w index missing rs vs

def addcolumnView (field : Val) (col : List Val) (index : Option Int) (missing : Val) (t : Table) : Out :=
  let hdr := t.headD []
  -- `if index is None: index = len(hdr)`: the position is fixed by the header, also for ragged rows
  let index' : Option Int := some (index.getD hdr.length)
  .ok (pyInsert hdr index' field :: addcolumnRows hdr.length index' missing (t.drop 1) col)

/-! ### header functions -/

def setheaderView (header : Row) (t : Table) : Out := .ok (header :: t.drop 1)
def extendheaderView (fields : Row) (t : Table) : Out := .ok ((t.headD [] ++ fields) :: t.drop 1)
def pushheaderView (header : Row) (t : Table) : Out := .ok (header :: t)

def prefixCell (p : List Nat) (c : Val) : Val := match c with | .str s => .str (p ++ s) | v => v
def suffixCell (p : List Nat) (c : Val) : Val := match c with | .str s => .str (s ++ p) | v => v

def prefixheaderView (p : List Nat) (t : Table) : Out :=
  match t with | [] => .ok [] | hdr :: rows => .ok (hdr.map (prefixCell p) :: rows)
def suffixheaderView (p : List Nat) (t : Table) : Out :=
  match t with | [] => .ok [] | hdr :: rows => .ok (hdr.map (suffixCell p) :: rows)

/-- `rename(table, spec)`: spec maps field names (or indices) to new names; index has priority -/
def renameView (spec : List (FSpec × Val)) (strict : Bool) (t : Table) : Out :=
  let hdr := t.headD []
  let bad := spec.any (fun s => match s.1 with
    | .idx i => decide (hdr.length ≤ i)
    | .name n => !hdr.any (fun c => Val.pyEq c (.str n)))
  if strict && bad then .fail [] .fieldSelection else
  let outhdr := hdr.zipIdx.map (fun (c, i) =>
    match spec.find? (fun s => s.1 == .idx i) with
    | some s => s.2
    | none => match spec.find? (fun s => match s.1, c with | .name n, .str m => n == m | _, _ => false) with
      | some s => s.2
      | none => c)
  .ok (outhdr :: t.drop 1)

/-! ### fills -/

def filldownRows (idx : List Nat) (missing : Val) : Row → List Row → List Row
  | _, [] => []
  | fill, r :: rs =>
    let out := r.zipIdx.map (fun (c, i) => if idx.contains i && Val.pyEq c missing then padGet .none fill i else c)
    let fill' := fill.zipIdx.map (fun (f, i) => if idx.contains i && !Val.pyEq (padGet missing r i) missing then padGet .none r i else f)
    out :: filldownRows idx missing fill' rs

/-- `fillright` on one row, left to right -/
def fillrightRow (missing : Val) : Option Val → Row → Row
  | _, [] => []
  | none, c :: cs => c :: fillrightRow missing (some c) cs
  | some p, c :: cs =>
    let c' := if Val.pyEq c missing && !Val.pyEq p missing then p else c
    c' :: fillrightRow missing (some c') cs

def fillleftRow (missing : Val) (r : Row) : Row := (fillrightRow missing none r.reverse).reverse

/-! ### accessors -/

/-- `values(table, field, missing)` -/
def valuesOf (idx : List Nat) (missing : Val) (rows : List Row) : List Val :=
  rows.map (fun r => match idx with
    | [i] => padGet missing r i
    | _ => .seq false (idx.map (padGet missing r)))

/-- `dicts` / `records` / `namedtuples`: each row as its header-width padded form -/
def recordsOf (w : Nat) (missing : Val) (rows : List Row) : List Row := rows.map (squareRow w missing)

/-- `columns(table, missing)` -/
def columnsOf (w : Nat) (missing : Val) (rows : List Row) : List (List Val) :=
  (List.range w).map (fun j => rows.map (fun r => padGet missing r j))

/-- `mergesort` of tables with different fields, as repaired in /repo 2f346d7 (driver op `mergesortH`): every table
    is first rearranged to the output header (`catRows`: union of the fields in order of first appearance, `missing`
    where a table has no such field or a row is short), then sorted, then merged -/
def mergesortH (idx : List Nat) (rev : Bool) (bs : Option Nat) (outhdr : Row) (missing : Val) (ts : List Table) : List Row :=
  mergeSorted (rowLe idx rev) (ts.map (fun t => sortRows (rowLe idx rev) bs (catRows outhdr missing t)))

/-- `aggregate(table, None, f, value)`: the single group of all rows -/
def keylessValues (vidx : Option (List Nat)) (rows : List Row) : List Val :=
  match vidx with
  | none => rows.map (fun r => .seq false r)
  | some [i] => rows.map (fun r => padGet .none r i)
  | some idx => rows.map (fun r => .seq false (idx.map (padGet .none r)))

def keylessAggregate (field : Val) (vidx : Option (List Nat)) (f : AggFn) (rows : List Row) : Out :=
  match f.apply (keylessValues vidx rows) with
  | .ok a => .ok [[field], [a]]
  | .error e => .fail [[field]] e

end Petl
