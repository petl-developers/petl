/-
  Petl.Select — model of petl.transform.selects (field/row selection, the comparison selectors),
  rowslice/head/tail (itertools.islice), skip.
-/
import Petl.Fields
namespace Petl

/-- the documented predicates of the comparison selectors -/
inductive Pred where
  | eq (v : Val) | ne (v : Val)
  | lt (v : Val) | le (v : Val) | gt (v : Val) | ge (v : Val)
  | rangeOpenLeft (a b : Val) | rangeOpenRight (a b : Val) | rangeOpen (a b : Val) | rangeClosed (a b : Val)
  | isIn (vs : List Val) | notIn (vs : List Val)
  | isNone | notNone | isTrue | isFalse

/-- as the lambdas of selects.py evaluate them (`v` raw, reference values wrapped in Comparable):
    `v < ref` is the reflected `ref > v`, `minv <= v < maxv` is `minv <= v and v < maxv` -/
def Pred.eval : Pred → Val → Bool
  | .eq r, v => Val.pyEq v r
  | .ne r, v => !Val.pyEq v r
  | .lt r, v => Val.gt r v
  | .le r, v => Val.ge r v
  | .gt r, v => Val.lt r v
  | .ge r, v => Val.le r v
  | .rangeOpenLeft a b, v => Val.le a v && Val.gt b v
  | .rangeOpenRight a b, v => Val.lt a v && Val.ge b v
  | .rangeOpen a b, v => Val.le a v && Val.ge b v
  | .rangeClosed a b, v => Val.lt a v && Val.lt v b
  | .isIn vs, v => vs.any (fun x => Val.pyEq x v)
  | .notIn vs, v => !vs.any (fun x => Val.pyEq x v)
  | .isNone, v => Val.pyEq v .none
  | .notNone, v => !Val.pyEq v .none
  | .isTrue, v => v.truthy
  | .isFalse, v => !v.truthy

/-- one cell of a row, an absent cell being read as `missing` -/
def cellOr (missing : Val) (r : Row) (i : Nat) : Val :=
  if r.length ≤ i then missing else getCell r i

/-- `getv(row)` of iterfieldselect: the cell of a single field, the tuple of cells of a compound field;
    every absent cell is read as `missing` (for a compound field: that cell only, not the whole key) -/
def fieldValue (idx : List Nat) (missing : Val) (r : Row) : Val :=
  match idx with
  | [i] => cellOr missing r i
  | _ => .seq false (idx.map (cellOr missing r))

/-- `select(table, field, where, complement, missing)` on the data rows -/
def fieldSelect (idx : List Nat) (missing : Val) (p : Val → Bool) (complement : Bool) (rows : List Row) : List Row :=
  rows.filter (fun r => (p (fieldValue idx missing r)) != complement)

/-- `select(table, where, complement)` with a row predicate -/
def rowSelect (p : Row → Bool) (complement : Bool) (rows : List Row) : List Row :=
  rows.filter (fun r => p r != complement)

/-- every `step`-th element starting with the first -/
def everyNth {α : Type} (step : Nat) : List α → List α
  | [] => []
  | x :: xs => x :: everyNth step (xs.drop (step - 1))
termination_by l => l.length
decreasing_by simp [List.length_drop]; omega

/-- `itertools.islice(it, start, stop, step)` (None: start 0, no stop, step 1) -/
def islice {α : Type} (start : Nat) (stop : Option Nat) (step : Nat) (l : List α) : List α :=
  everyNth step ((match stop with | some s => l.take s | none => l).drop start)

def tailRows {α : Type} (n : Nat) (l : List α) : List α := l.drop (l.length - n)

/-- `search` / `searchcomplement` (petl b1fac41): a row matches when one of the cells under consideration matches the
    pattern — every cell when no field is given, otherwise the cells present at the given positions (a row too short to
    have the field does not match).  `m` is the verdict of `re.search` on the text of each cell of the row. -/
def searchMatch (idx : Option (List Nat)) (r : Row) (m : List Bool) : Bool :=
  match idx with
  | none => (m.take r.length).any id
  | some is => is.any (fun i => decide (i < r.length) && m.getD i false)

def searchRows (idx : Option (List Nat)) (complement : Bool) (rows : List (Row × List Bool)) : List Row :=
  (rows.filter (fun rm => searchMatch idx rm.1 rm.2 != complement)).map (·.1)

def selectView (idx : List Nat) (missing : Val) (p : Pred) (complement : Bool) (t : Table) : Out :=
  match t with
  | [] => .fail [] .fieldSelection
  | hdr :: rows => .ok (hdr :: fieldSelect idx missing p.eval complement rows)

end Petl
