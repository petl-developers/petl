/-
  Petl.Dedup — model of petl.transform.dedup: the run detectors of duplicates / unique /
  distinct / conflicts over the key-sorted table, with exactly the state the Python loops carry.
-/
import Petl.Group
import Petl.Basics
namespace Petl

/-- `iterduplicates`: state = previous row, previous_yielded -/
def dupAux (key : Row → Val) (prev : Row) (yielded : Bool) : List Row → List Row
  | [] => []
  | row :: rest =>
    if Val.eq (key prev) (key row) then
      (if yielded then [] else [prev]) ++ row :: dupAux key row true rest
    else dupAux key row false rest

def dupRows (key : Row → Val) : List Row → List Row
  | [] => []
  | r :: rest => dupAux key r false rest

/-- `iterunique`: state = prev, prev_comp_ne -/
def uniqAux (key : Row → Val) (prev : Row) (prevNe : Bool) : List Row → List Row
  | [] => if prevNe then [prev] else []
  | curr :: rest =>
    let currNe := !Val.eq (key curr) (key prev)
    (if prevNe && currNe then [prev] else []) ++ uniqAux key curr currNe rest

def uniqRows (key : Row → Val) : List Row → List Row
  | [] => []
  | r :: rest => uniqAux key r true rest

/-- `distinct` without count: state = previous_keys -/
def distAux (key : Row → Val) (prevKey : Option Val) : List Row → List Row
  | [] => []
  | row :: rest =>
    let keep := match prevKey with | none => true | some k => !Val.eq (key row) k
    (if keep then [row] else []) ++ distAux key (some (key row)) rest

def distinctRows (key : Row → Val) (rows : List Row) : List Row := distAux key none rows

/-- `distinct(count=…)`: state = previous (first row of the run), n_dup -/
def distCountAux (key : Row → Val) (prev : Row) (n : Nat) : List Row → List Row
  | [] => [prev ++ [intVal n]]
  | row :: rest =>
    if Val.eq (key prev) (key row) then distCountAux key prev (n + 1) rest
    else (prev ++ [intVal n]) :: distCountAux key row 1 rest

def distinctCountRows (key : Row → Val) : List Row → List Row
  | [] => []
  | r :: rest => distCountAux key r 1 rest

/-- do two rows of one key group conflict on some selected field? (`missing not in (x, y) and x != y`) -/
def conflictOn (sel : Nat → Bool) (missing : Val) (a b : Row) : Bool :=
  ((a.zip b).zipIdx.any (fun ((x, y), i) =>
    sel i && !(Val.pyEq missing x || Val.pyEq missing y) && !Val.pyEq x y))

/-- `iterconflicts` -/
def confAux (key : Row → Val) (sel : Nat → Bool) (missing : Val) (prev : Row) (yielded : Bool) :
    List Row → List Row
  | [] => []
  | row :: rest =>
    if Val.eq (key prev) (key row) then
      if conflictOn sel missing prev row then
        (if yielded then [] else [prev]) ++ row :: confAux key sel missing row true rest
      else confAux key sel missing row yielded rest
    else confAux key sel missing row false rest

def confRows (key : Row → Val) (sel : Nat → Bool) (missing : Val) : List Row → List Row
  | [] => []
  | r :: rest => confAux key sel missing r false rest

/-- `isunique`: a seen-set over the values -/
def isUniqueAux (seen : List Val) : List Val → Bool
  | [] => true
  | v :: vs => if seen.any (fun s => Val.eq s v) then false else isUniqueAux (v :: seen) vs

def isUniqueVals (vs : List Val) : Bool := isUniqueAux [] vs

inductive DedupOp where
  | duplicates | unique | distinct | distinctCount (field : Val) | conflicts (sel : List Nat) (missing : Val)

/-- the views: key=None means all fields; raw itemgetter keys raise IndexError on short rows -/
def dedupView (op : DedupOp) (key : Option (List FSpec)) (bs : Option Nat) (t : Table) : Out :=
  match t with
  | [] => .ok []
  | hdr :: rows =>
    let idx? : Except Err (List Nat) :=
      match key with
      | some k => asindices hdr k
      | none => if hdr.isEmpty then .error .type else .ok (List.range hdr.length)
    let outHdr := match op with | .distinctCount f => hdr ++ [f] | _ => hdr
    match idx? with
    | .error e => match op with
      | .distinct => .fail [] e
      | .distinctCount _ => .fail [] e
      | _ => .fail [hdr] e
    | .ok idx =>
      let sorted := sortRows (rowLe idx false) bs rows
      -- `iterduplicates` / `iterconflicts` / `distinct(count=…)` only evaluate the raw key once there is a second row
      let keyed : Bool := match op with
        | .duplicates => decide (2 ≤ sorted.length)
        | .conflicts _ _ => decide (2 ≤ sorted.length)
        | .distinctCount _ => decide (2 ≤ sorted.length)
        | _ => true
      if keyed && sorted.any (fun r => idx.any (fun i => r.length ≤ i)) then .fail [outHdr] .index else
      let k := getKey idx
      match op with
      | .duplicates => .ok (hdr :: dupRows k sorted)
      | .unique => .ok (hdr :: uniqRows k sorted)
      | .distinct => .ok (hdr :: distinctRows k sorted)
      | .distinctCount _ => .ok (outHdr :: distinctCountRows k sorted)
      | .conflicts sel missing => .ok (hdr :: confRows k (fun i => sel.contains i) missing sorted)

/-- `groupcountdistinctvalues(table, key, value)` as implemented (petl d4bbfd2): cut to the key fields followed by the value
    field, `distinct` (sort whole rows, keep the first row of every run of equal rows), then count the rows of each key -/
def gcdvDistinct (kidx : List Nat) (vidx : Nat) (bs : Option Nat) (rows : List Row) : List Row :=
  let all := List.range (kidx.length + 1)
  distinctRows (getKey all) (sortRows (rowLe all false) bs (pickRows (kidx ++ [vidx]) .none rows))

def groupCountDistinct (kidx : List Nat) (vidx : Nat) (bs : Option Nat) (rows : List Row) : List (Val × Nat) :=
  (sortedGroups (List.range kidx.length) bs (gcdvDistinct kidx vidx bs rows)).map (fun g => (g.1, g.2.length))

end Petl
