/-
  Petl.ErrPolicy — model of the failonerror policy of convert / fieldmap / rowmap / rowmapmany.
  Converters and mappers are arbitrary functions that may fail (`Except Err _`).
-/
import Petl.Fields
namespace Petl

inductive Policy where
  | suppress    -- failonerror=False
  | raise       -- failonerror=True
  | inline      -- failonerror='inline'
deriving DecidableEq, Repr, Inhabited

abbrev Conv := Val → Except Err Val

/-- an exception object delivered in a cell: identified by its class only -/
def excName : Err → String
  | .value => "ValueError" | .type => "TypeError" | .key => "KeyError" | .index => "IndexError"
  | .fieldSelection => "FieldSelectionError" | .duplicateKey => "DuplicateKeyError"
  | .stopIteration => "StopIteration" | .runtime => "RuntimeError" | .assertion => "AssertionError"
  | .arg => "ArgumentError"

def excVal (e : Err) : Val := .str (("EXC:" ++ excName e).toList.map Char.toNat)

/-- `transform_value(i, v)` -/
def transformValue (pol : Policy) (errorvalue : Val) (conv : Option Conv) (v : Val) : Except Err Val :=
  match conv with
  | none => .ok v
  | some c =>
    match c v with
    | .ok w => .ok w
    | .error e =>
      match pol with
      | .inline => .ok (excVal e)
      | .raise => .error e
      | .suppress => .ok errorvalue

/-- cells left to right; the first failing cell under `raise` aborts the row -/
def transformCells (pol : Policy) (errorvalue : Val) (convs : Nat → Option Conv) : Nat → Row → Except Err Row
  | _, [] => .ok []
  | i, v :: vs =>
    match transformValue pol errorvalue (convs i) v with
    | .error e => .error e
    | .ok w => (transformCells pol errorvalue convs (i + 1) vs).map (w :: ·)

/-- data rows of `convert`: rows delivered, then possibly the exception -/
def convertRows (pol : Policy) (errorvalue : Val) (convs : Nat → Option Conv) : List Row → List Row × Option Err
  | [] => ([], none)
  | r :: rs =>
    match transformCells pol errorvalue convs 0 r with
    | .error e => ([], some e)
    | .ok r' => let (out, e) := convertRows pol errorvalue convs rs; (r' :: out, e)

/-- `fieldmap`: one mapping function per output field, applied to the whole row -/
def fieldmapRow (pol : Policy) (errorvalue : Val) : List (Row → Except Err Val) → Row → Except Err Row
  | [], _ => .ok []
  | f :: fs, r =>
    match (match f r with
           | .ok w => Except.ok w
           | .error e => match pol with
             | .inline => .ok (excVal e) | .raise => .error e | .suppress => .ok errorvalue) with
    | .error e => .error e
    | .ok w => (fieldmapRow pol errorvalue fs r).map (w :: ·)

def fieldmapRows (pol : Policy) (errorvalue : Val) (fs : List (Row → Except Err Val)) : List Row → List Row × Option Err
  | [] => ([], none)
  | r :: rs =>
    match fieldmapRow pol errorvalue fs r with
    | .error e => ([], some e)
    | .ok r' => let (out, e) := fieldmapRows pol errorvalue fs rs; (r' :: out, e)

/-- `rowmap` -/
def rowmapRows (pol : Policy) (f : Row → Except Err Row) : List Row → List Row × Option Err
  | [] => ([], none)
  | r :: rs =>
    match f r with
    | .ok r' => let (out, e) := rowmapRows pol f rs; (r' :: out, e)
    | .error e =>
      match pol with
      | .raise => ([], some e)
      | .inline => let (out, e') := rowmapRows pol f rs; ([excVal e] :: out, e')
      | .suppress => rowmapRows pol f rs

/-- `rowmapmany`: the generator yields some rows and may then fail -/
def rowmapmanyRows (pol : Policy) (f : Row → List Row × Option Err) : List Row → List Row × Option Err
  | [] => ([], none)
  | r :: rs =>
    match f r with
    | (produced, none) => let (out, e) := rowmapmanyRows pol f rs; (produced ++ out, e)
    | (produced, some e) =>
      match pol with
      | .raise => (produced, some e)
      | .inline => let (out, e') := rowmapmanyRows pol f rs; (produced ++ [excVal e] :: out, e')
      | .suppress => let (out, e') := rowmapmanyRows pol f rs; (produced ++ out, e')

/-- the views read the global default when they are constructed, not when they are iterated -/
structure PolicyView where
  stored : Policy

def PolicyView.make (arg : Option Policy) (configAtConstruction : Policy) : PolicyView :=
  { stored := arg.getD configAtConstruction }

def PolicyView.policyAtIteration (v : PolicyView) (_configAtIteration : Policy) : Policy := v.stored

/-- catalogue converter shared with the harness: fails (with `e`) on the values of `fs`, wraps others in a list -/
def failOn (fs : List Val) (e : Err) : Conv :=
  fun v => if fs.any (fun x => Val.pyEq x v) then .error e else .ok (.seq true [v])

end Petl
