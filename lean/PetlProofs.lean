-- the lemma modules, in the order in which DESIGN.md 8.10 describes them
import PetlProofs.Order
import PetlProofs.Sort
import PetlProofs.Group
import PetlProofs.Dedup
import PetlProofs.RecastMelt
import PetlProofs.Join
import PetlProofs.HashJoin
import PetlProofs.SetOps
import PetlProofs.Views
import PetlProofs.TempFiles
import PetlProofs.Csv
import PetlProofs.Heap
import PetlProofs.HeapFast
import PetlProofs.HeapReviewedBodies
import PetlProofs.HeapReviewed
import PetlProofs.HeapSafe
import PetlProofs.PullShape
-- the property theorems
import PetlProofs.Props.C01
import PetlProofs.Props.C02
import PetlProofs.Props.C02Shape
import PetlProofs.Props.C03
import PetlProofs.Props.C04
import PetlProofs.Props.C05
import PetlProofs.Props.C05Heap
import PetlProofs.Props.C05Shape
import PetlProofs.Props.C06
import PetlProofs.Props.C07
import PetlProofs.Props.C08
import PetlProofs.Props.C08Record
import PetlProofs.Props.C09
import PetlProofs.Props.C10
import PetlProofs.Props.C11
import PetlProofs.Props.C12
import PetlProofs.Props.C13
import PetlProofs.Props.C13Sel
import PetlProofs.Props.C14
import PetlProofs.Props.C14Pivot
import PetlProofs.Props.C15
import PetlProofs.Props.C15Csv
import PetlProofs.Props.C16
import PetlProofs.Props.C17
import PetlProofs.Props.C18
import PetlProofs.Props.C19
import PetlProofs.Props.C19Ladder
import PetlProofs.Props.C20
import PetlProofs.Props.ArgForms
-- the reviewed source fingerprints
import PetlProofs.Snapshot.C01
import PetlProofs.Snapshot.C02
import PetlProofs.Snapshot.C03
import PetlProofs.Snapshot.C04
import PetlProofs.Snapshot.C05
import PetlProofs.Snapshot.C06
import PetlProofs.Snapshot.C07
import PetlProofs.Snapshot.C08
import PetlProofs.Snapshot.C09
import PetlProofs.Snapshot.C10
import PetlProofs.Snapshot.C11
import PetlProofs.Snapshot.C12
import PetlProofs.Snapshot.C13
import PetlProofs.Snapshot.C14
import PetlProofs.Snapshot.C15
import PetlProofs.Snapshot.C16
import PetlProofs.Snapshot.C17
import PetlProofs.Snapshot.C18
import PetlProofs.Snapshot.C19
import PetlProofs.Snapshot.C20
