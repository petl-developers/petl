/-
  Snapshot of the petl function bodies the hand-written model of C01 was validated against
  (tools/source_snapshot.py, run by the reviewer).  `Petl.Gen.fpC01` is regenerated from the source on every run.
-/
import Petl.Gen.FpC01

namespace Petl.Snapshot
open Petl.Gen

def expectedC01 : List (String × String) := [
  ("file:comparison.py", "c46d05a1308c92ce"),
  ("file:compat.py", "2a259e16acd200bc"),
  ("file:config.py", "142bde514c82c29d"),
  ("file:io/db.py", "29a8207a5d7ac50e"),
  ("file:io/json.py", "88171728b8aebfec"),
  ("file:io/sources.py", "7c2b0cb2619a6b10"),
  ("file:transform/hashjoins.py", "b948265980fadaea"),
  ("file:transform/sorts.py", "137f7e8a70e043fe"),
  ("file:util/base.py", "771a68108eeb730d"),
  ("file:util/materialise.py", "66208e10041a09c8"),
  ("file:util/random.py", "5ef62df76549c098"),
  ("io.json.DictsGeneratorView", "c8aa475e2b283f0e"),
  ("transform.hashjoins.HashJoinView", "412a56e0830fe87a"),
  ("transform.hashjoins.HashLeftJoinView", "763079af6f690813"),
  ("transform.hashjoins.HashRightJoinView", "74040bd4cabc24ca"),
  ("transform.sorts.SortView", "39c82fa00f3f0fc2"),
  ("util.materialise.CacheView", "5b1ee4b5274360d5"),
  ("util.random.DummyTable", "30c15880d851abee"),
  ("util.random.RandomTable", "5641af1218691232")
]

/-- every function or class the model of C01 mirrors still has the body it was validated against -/
theorem C01_sources_as_validated : fpC01 = expectedC01 := rfl

end Petl.Snapshot
