/-
  Snapshot of the petl function bodies the hand-written model of C08 was validated against
  (tools/source_snapshot.py, run by the reviewer).  `Petl.Gen.fpC08` is regenerated from the source on every run.
-/
import Petl.Gen.FpC08

namespace Petl.Snapshot
open Petl.Gen

def expectedC08 : List (String × String) := [
  ("file:comparison.py", "c46d05a1308c92ce"),
  ("file:compat.py", "2a259e16acd200bc"),
  ("file:config.py", "142bde514c82c29d"),
  ("file:transform/basics.py", "093d71f68c43a00a"),
  ("file:transform/setops.py", "6dff26ed32585dcd"),
  ("file:transform/sorts.py", "137f7e8a70e043fe"),
  ("file:util/base.py", "771a68108eeb730d"),
  ("transform.setops.ComplementView", "ed6c1a0856905afb"),
  ("transform.setops.IntersectionView", "b1a5362a08986fc1"),
  ("transform.setops.diff", "768b8676047eb145"),
  ("transform.setops.itercomplement", "83727cae4f100fea"),
  ("transform.setops.iterhashcomplement", "2a525b9fe5233554"),
  ("transform.setops.iterhashintersection", "2f3ede7fd01cfd5d"),
  ("transform.setops.iterintersection", "6bc0382056bc0d41"),
  ("transform.setops.recordcomplement", "7668004eaf52ed6f"),
  ("transform.setops.recorddiff", "7ff7e076f6bc921e")
]

/-- every function or class the model of C08 mirrors still has the body it was validated against -/
theorem C08_sources_as_validated : fpC08 = expectedC08 := rfl

end Petl.Snapshot
