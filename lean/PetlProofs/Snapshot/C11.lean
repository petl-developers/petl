/-
  Snapshot of the petl function bodies the hand-written model of C11 was validated against
  (tools/source_snapshot.py, run by the reviewer).  `Petl.Gen.fpC11` is regenerated from the source on every run.
-/
import Petl.Gen.FpC11

namespace Petl.Snapshot
open Petl.Gen

def expectedC11 : List (String × String) := [
  ("file:comparison.py", "c46d05a1308c92ce"),
  ("file:compat.py", "2a259e16acd200bc"),
  ("file:config.py", "142bde514c82c29d"),
  ("file:transform/basics.py", "093d71f68c43a00a"),
  ("file:transform/dedup.py", "bd5f47cbc6d0c73d"),
  ("file:transform/joins.py", "bb9e0069e4d5e3a6"),
  ("file:transform/maps.py", "e13eb9e40cc9aa94"),
  ("file:transform/reductions.py", "bbf60b10e10110b8"),
  ("file:transform/reshape.py", "b1f08e12c952f763"),
  ("file:transform/setops.py", "6dff26ed32585dcd"),
  ("file:transform/sorts.py", "137f7e8a70e043fe"),
  ("file:util/base.py", "771a68108eeb730d")
]

/-- every function or class the model of C11 mirrors still has the body it was validated against -/
theorem C11_sources_as_validated : fpC11 = expectedC11 := rfl

end Petl.Snapshot
