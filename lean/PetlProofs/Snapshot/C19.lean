/-
  Snapshot of the petl function bodies the hand-written model of C19 was validated against
  (tools/source_snapshot.py, run by the reviewer).  `Petl.Gen.fpC19` is regenerated from the source on every run.
-/
import Petl.Gen.FpC19

namespace Petl.Snapshot
open Petl.Gen

def expectedC19 : List (String × String) := [
  ("file:comparison.py", "c46d05a1308c92ce"),
  ("file:compat.py", "2a259e16acd200bc"),
  ("file:config.py", "142bde514c82c29d"),
  ("file:transform/conversions.py", "2209b8de15c75a9f"),
  ("file:transform/maps.py", "e13eb9e40cc9aa94"),
  ("file:util/base.py", "771a68108eeb730d"),
  ("transform.conversions.FieldConvertView", "b1346e6539cc1ac2"),
  ("transform.conversions.iterfieldconvert", "ee107c581a77cc3a"),
  ("transform.maps.FieldMapView", "25107991aea0e6ce"),
  ("transform.maps.RowMapManyView", "53fd3c192fcd4b8f"),
  ("transform.maps.RowMapView", "635dac7cc87be32d"),
  ("transform.maps.iterfieldmap", "da056bbb56365074"),
  ("transform.maps.iterrowmap", "2ee8a4558e846354"),
  ("transform.maps.iterrowmapmany", "89a3315cb2106c9a")
]

/-- every function or class the model of C19 mirrors still has the body it was validated against -/
theorem C19_sources_as_validated : fpC19 = expectedC19 := rfl

end Petl.Snapshot
