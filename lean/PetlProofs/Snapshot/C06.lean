/-
  Snapshot of the petl function bodies the hand-written model of C06 was validated against
  (tools/source_snapshot.py, run by the reviewer).  `Petl.Gen.fpC06` is regenerated from the source on every run.
-/
import Petl.Gen.FpC06

namespace Petl.Snapshot
open Petl.Gen

def expectedC06 : List (String × String) := [
  ("file:comparison.py", "c46d05a1308c92ce"),
  ("file:compat.py", "2a259e16acd200bc"),
  ("file:config.py", "142bde514c82c29d"),
  ("file:transform/basics.py", "093d71f68c43a00a"),
  ("file:transform/joins.py", "bb9e0069e4d5e3a6"),
  ("file:transform/sorts.py", "137f7e8a70e043fe"),
  ("file:util/base.py", "771a68108eeb730d"),
  ("transform.joins.AntiJoinView", "186aa24c67cf2f25"),
  ("transform.joins.CrossJoinView", "23f758e751cf407d"),
  ("transform.joins.JoinView", "f25f79d527b6c240"),
  ("transform.joins.LookupJoinView", "91b34180acb6c5ed"),
  ("transform.joins.iterantijoin", "0c81409e97e784b3"),
  ("transform.joins.itercrossjoin", "70901c46340c788c"),
  ("transform.joins.iterjoin", "3bdb6dfedf69a1f8"),
  ("transform.joins.iterlookupjoin", "0fde0fb795ba52cc"),
  ("transform.joins.keys_from_args", "347fcdab128168a5"),
  ("transform.joins.natural_key", "84dc49c9fc51e1c2")
]

/-- every function or class the model of C06 mirrors still has the body it was validated against -/
theorem C06_sources_as_validated : fpC06 = expectedC06 := rfl

end Petl.Snapshot
