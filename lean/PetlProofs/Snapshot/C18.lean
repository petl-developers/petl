/-
  Snapshot of the petl function bodies the hand-written model of C18 was validated against
  (tools/source_snapshot.py, run by the reviewer).  `Petl.Gen.fpC18` is regenerated from the source on every run.
-/
import Petl.Gen.FpC18

namespace Petl.Snapshot
open Petl.Gen

def expectedC18 : List (String × String) := [
  ("file:comparison.py", "c46d05a1308c92ce"),
  ("file:compat.py", "2a259e16acd200bc"),
  ("file:config.py", "142bde514c82c29d"),
  ("file:io/json.py", "88171728b8aebfec"),
  ("file:transform/sorts.py", "137f7e8a70e043fe"),
  ("file:util/base.py", "771a68108eeb730d"),
  ("io.json.DictsGeneratorView", "c8aa475e2b283f0e"),
  ("transform.sorts.SortView", "39c82fa00f3f0fc2"),
  ("transform.sorts._NamedTempFileDeleteOnGC", "fe187490fb07ae00")
]

/-- every function or class the model of C18 mirrors still has the body it was validated against -/
theorem C18_sources_as_validated : fpC18 = expectedC18 := rfl

end Petl.Snapshot
