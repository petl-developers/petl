/-
  Snapshot of the petl function bodies the hand-written model of C07 was validated against
  (tools/source_snapshot.py, run by the reviewer).  `Petl.Gen.fpC07` is regenerated from the source on every run.
-/
import Petl.Gen.FpC07

namespace Petl.Snapshot
open Petl.Gen

def expectedC07 : List (String × String) := [
  ("file:comparison.py", "c46d05a1308c92ce"),
  ("file:compat.py", "2a259e16acd200bc"),
  ("file:config.py", "142bde514c82c29d"),
  ("file:transform/hashjoins.py", "b948265980fadaea"),
  ("file:transform/joins.py", "bb9e0069e4d5e3a6"),
  ("file:transform/sorts.py", "137f7e8a70e043fe"),
  ("file:util/base.py", "771a68108eeb730d"),
  ("file:util/lookups.py", "18ad3f3b3f749ffe"),
  ("transform.hashjoins.iterhashantijoin", "c5b36af12810a7d5"),
  ("transform.hashjoins.iterhashjoin", "e88b30071bdbfa08"),
  ("transform.hashjoins.iterhashleftjoin", "f6708e181964e9f2"),
  ("transform.hashjoins.iterhashlookupjoin", "deb61022e08d6bd5"),
  ("transform.hashjoins.iterhashrightjoin", "2724f46b40aa9553"),
  ("util.lookups._setup_lookup", "eb2d347aac2ec1e1"),
  ("util.lookups.dictlookup", "01804acae64bf8a3"),
  ("util.lookups.dictlookupone", "e759294ca3703cf8"),
  ("util.lookups.lookup", "aa2949089df482a0"),
  ("util.lookups.lookupone", "f73aecb63a8d3f67"),
  ("util.lookups.recordlookup", "e4aef48cc31816f1"),
  ("util.lookups.recordlookupone", "cf506b70a51c66d2")
]

/-- every function or class the model of C07 mirrors still has the body it was validated against -/
theorem C07_sources_as_validated : fpC07 = expectedC07 := rfl

end Petl.Snapshot
