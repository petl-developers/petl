/-
  Snapshot of the petl function bodies the hand-written model of C03 was validated against
  (tools/source_snapshot.py, run by the reviewer).  `Petl.Gen.fpC03` is regenerated from the source on every run.
-/
import Petl.Gen.FpC03

namespace Petl.Snapshot
open Petl.Gen

def expectedC03 : List (String × String) := [
  ("file:comparison.py", "c46d05a1308c92ce"),
  ("file:compat.py", "2a259e16acd200bc"),
  ("file:config.py", "142bde514c82c29d"),
  ("file:transform/basics.py", "093d71f68c43a00a"),
  ("file:transform/conversions.py", "2209b8de15c75a9f"),
  ("file:transform/dedup.py", "bd5f47cbc6d0c73d"),
  ("file:transform/fills.py", "dd9addc453365c1c"),
  ("file:transform/hashjoins.py", "b948265980fadaea"),
  ("file:transform/headers.py", "b170f0cc5a1c0354"),
  ("file:transform/joins.py", "bb9e0069e4d5e3a6"),
  ("file:transform/maps.py", "e13eb9e40cc9aa94"),
  ("file:transform/reductions.py", "bbf60b10e10110b8"),
  ("file:transform/regex.py", "7acd499a0489265c"),
  ("file:transform/reshape.py", "b1f08e12c952f763"),
  ("file:transform/selects.py", "f935e8905e1e021c"),
  ("file:transform/setops.py", "6dff26ed32585dcd"),
  ("file:transform/sorts.py", "137f7e8a70e043fe"),
  ("file:transform/unpacks.py", "dc09fa3e6a63a9d8"),
  ("file:transform/validation.py", "d6c489f84a1f0cd7"),
  ("file:util/base.py", "771a68108eeb730d"),
  ("file:util/counting.py", "d1842a2eb811b294"),
  ("file:util/lookups.py", "18ad3f3b3f749ffe"),
  ("file:util/materialise.py", "66208e10041a09c8"),
  ("file:util/random.py", "5ef62df76549c098"),
  ("file:util/timing.py", "0484ce267f7215fe"),
  ("file:util/vis.py", "0d38f341016c26a4")
]

/-- every function or class the model of C03 mirrors still has the body it was validated against -/
theorem C03_sources_as_validated : fpC03 = expectedC03 := rfl

end Petl.Snapshot
