/-
  Snapshot of the petl function bodies the hand-written model of C05 was validated against
  (tools/source_snapshot.py, run by the reviewer).  `Petl.Gen.fpC05` is regenerated from the source on every run.
-/
import Petl.Gen.FpC05

namespace Petl.Snapshot
open Petl.Gen

def expectedC05 : List (String × String) := [
  ("file:comparison.py", "c46d05a1308c92ce"),
  ("file:compat.py", "2a259e16acd200bc"),
  ("file:config.py", "142bde514c82c29d"),
  ("file:transform/basics.py", "093d71f68c43a00a"),
  ("file:transform/sorts.py", "137f7e8a70e043fe"),
  ("file:util/base.py", "771a68108eeb730d"),
  ("transform.sorts.MergeSortView", "737d0646d5facf91"),
  ("transform.sorts.SortView", "39c82fa00f3f0fc2"),
  ("transform.sorts._Keyed", "584fe9dce5893b72"),
  ("transform.sorts._heapqmergesorted", "23fa6d6f863b7b86"),
  ("transform.sorts._iterchunk", "110c768832fd7520"),
  ("transform.sorts._mergesorted", "f111489c26abfbd5"),
  ("transform.sorts._shortlistmergesorted", "a46bc364e42ebcf2"),
  ("transform.sorts.issorted", "76ed0b881076d03d"),
  ("transform.sorts.itermergesort", "24123b19efcef020")
]

/-- every function or class the model of C05 mirrors still has the body it was validated against -/
theorem C05_sources_as_validated : fpC05 = expectedC05 := rfl

end Petl.Snapshot
