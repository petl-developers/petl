/-
  Snapshot of the petl function bodies the hand-written model of C17 was validated against
  (tools/source_snapshot.py, run by the reviewer).  `Petl.Gen.fpC17` is regenerated from the source on every run.
-/
import Petl.Gen.FpC17

namespace Petl.Snapshot
open Petl.Gen

def expectedC17 : List (String × String) := [
  ("file:io/db.py", "29a8207a5d7ac50e"),
  ("file:io/db_create.py", "511c2584bfe921e5"),
  ("file:io/db_utils.py", "1b080de0ed8ec655"),
  ("file:util/base.py", "771a68108eeb730d"),
  ("io.db._iter_dbapi_connection", "2cd387ab719085f4"),
  ("io.db._iter_dbapi_cursor", "fa60968be8c054cc"),
  ("io.db._iter_dbapi_mkcurs", "4b53539bf31380f5"),
  ("io.db._todb", "ba9e68dde3e02fa9"),
  ("io.db._todb_dbapi_connection", "2e55058e30d3c647"),
  ("io.db._todb_dbapi_cursor", "f82bd9b2b3af3df6"),
  ("io.db._todb_dbapi_mkcurs", "81f228ec409c5513"),
  ("io.db.appenddb", "b911f8c3cdd4205d"),
  ("io.db.todb", "8acf69b23011e501")
]

/-- every function or class the model of C17 mirrors still has the body it was validated against -/
theorem C17_sources_as_validated : fpC17 = expectedC17 := rfl

end Petl.Snapshot
