/-
  Snapshot of the petl function bodies the hand-written model of C12 was validated against
  (tools/source_snapshot.py, run by the reviewer).  `Petl.Gen.fpC12` is regenerated from the source on every run.
-/
import Petl.Gen.FpC12

namespace Petl.Snapshot
open Petl.Gen

def expectedC12 : List (String × String) := [
  ("file:comparison.py", "c46d05a1308c92ce"),
  ("file:compat.py", "2a259e16acd200bc"),
  ("file:config.py", "142bde514c82c29d"),
  ("file:transform/basics.py", "093d71f68c43a00a"),
  ("file:transform/conversions.py", "2209b8de15c75a9f"),
  ("file:transform/fills.py", "dd9addc453365c1c"),
  ("file:transform/headers.py", "b170f0cc5a1c0354"),
  ("file:transform/maps.py", "e13eb9e40cc9aa94"),
  ("file:transform/regex.py", "7acd499a0489265c"),
  ("file:util/base.py", "771a68108eeb730d"),
  ("file:util/materialise.py", "66208e10041a09c8"),
  ("transform.basics.AddColumnView", "946e1a09be0e21a7"),
  ("transform.basics.AddFieldView", "4852d8efdadc32cc"),
  ("transform.basics.AddFieldsView", "53c09244b538d734"),
  ("transform.basics.AddRowNumbersView", "a8a87aeb5c23628c"),
  ("transform.basics.AnnexView", "3cd793a9682acc0b"),
  ("transform.basics.CatView", "b1bcf802eb1634d3"),
  ("transform.basics.CutOutView", "ee421b9f0943ec7c"),
  ("transform.basics.CutView", "2a867b8144a190ab"),
  ("transform.basics.MoveFieldView", "e1c4e305c35abc12"),
  ("transform.basics.StackView", "b846bfc3b89a18eb"),
  ("transform.basics.iteraddcolumn", "59f86fc347c271ef"),
  ("transform.basics.iteraddfield", "56c943453c7a55a0"),
  ("transform.basics.iteraddfields", "2e933e36ad76bbcf"),
  ("transform.basics.iteraddrownumbers", "2a92da817281f947"),
  ("transform.basics.iterannex", "29bc630275bcee99"),
  ("transform.basics.itercat", "56188b93d3789c94"),
  ("transform.basics.itercut", "27d04fca571f4fa7"),
  ("transform.basics.itercutout", "1b0087070b645f9a"),
  ("transform.basics.iterstack", "567c1bd52ee4dddc"),
  ("transform.conversions.FieldConvertView", "b1346e6539cc1ac2"),
  ("transform.conversions.convert", "7d0e99f18f920024"),
  ("transform.conversions.convertall", "e55e36571c365f13"),
  ("transform.conversions.iterfieldconvert", "ee107c581a77cc3a"),
  ("transform.conversions.replace", "8ead0995c13b926d"),
  ("transform.conversions.replaceall", "b047d03a0f5a5c8e"),
  ("transform.conversions.update", "0cdc895f11144a7e"),
  ("transform.fills.FillDownView", "8c8a2f9498e6f75a"),
  ("transform.fills.FillLeftView", "712a5445e3443bed"),
  ("transform.fills.FillRightView", "9675c119322e3c41"),
  ("transform.fills.iterfilldown", "9ef9266c0a1d3f1c"),
  ("transform.fills.iterfillleft", "a74aaba5e58df795"),
  ("transform.fills.iterfillright", "e955965623f6e4b1"),
  ("transform.headers.ExtendHeaderView", "1950129a6c159c98"),
  ("transform.headers.PrefixHeaderView", "97da2c4ba6e8bb83"),
  ("transform.headers.PushHeaderView", "12e824dbe7c6272c"),
  ("transform.headers.RenameView", "48e9d7e3cdcb6aa5"),
  ("transform.headers.SetHeaderView", "b63afa9dd92826ac"),
  ("transform.headers.SkipView", "b1408e8f2752dce6"),
  ("transform.headers.SortHeaderView", "a1f00def180255a6"),
  ("transform.headers.SuffixHeaderView", "31fd4b0392367812"),
  ("transform.headers.iterextendheader", "527fe8a6e676013c"),
  ("transform.headers.iterpushheader", "a35d949fb95dfb0a"),
  ("transform.headers.iterrename", "42e0b31d702320e3"),
  ("transform.headers.itersetheader", "22bdead1a6decea1"),
  ("transform.headers.iterskip", "c4a0cb1e97dd7b3d"),
  ("util.base.Record", "ce61d5ee23845cf6"),
  ("util.base.asindices", "ac8eef9a83c85381"),
  ("util.base.iterdata", "8352feab08b0cd45"),
  ("util.base.iterdicts", "aec57ee69209d31e"),
  ("util.base.iternamedtuples", "c305a844bbf46ec9"),
  ("util.base.iterrecords", "ebc5a86e63ffa291"),
  ("util.base.itervalues", "2405156081efa095"),
  ("util.base.rowgetter", "1209005fdc815142")
]

/-- every function or class the model of C12 mirrors still has the body it was validated against -/
theorem C12_sources_as_validated : fpC12 = expectedC12 := rfl

end Petl.Snapshot
