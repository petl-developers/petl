/-
  Snapshot of the petl function bodies the hand-written model of C15 was validated against
  (tools/source_snapshot.py, run by the reviewer).  `Petl.Gen.fpC15` is regenerated from the source on every run.
-/
import Petl.Gen.FpC15

namespace Petl.Snapshot
open Petl.Gen

def expectedC15 : List (String × String) := [
  ("file:io/base.py", "e2315106bbcaaf95"),
  ("file:io/csv.py", "143722bf0e79c91e"),
  ("file:io/csv_py3.py", "c1e744ce52bf68bb"),
  ("file:io/html.py", "860313482e8c113f"),
  ("file:io/json.py", "88171728b8aebfec"),
  ("file:io/pickle.py", "40e23d34076571f8"),
  ("file:io/sources.py", "7c2b0cb2619a6b10"),
  ("file:io/text.py", "b72fac07748bae66"),
  ("file:util/base.py", "771a68108eeb730d"),
  ("io.csv_py3.CSVView", "eaf3783a92f57ad7"),
  ("io.csv_py3._writecsv", "9694ef1e4cf29325"),
  ("io.csv_py3.appendcsv_impl", "7583da41b0241cd7"),
  ("io.csv_py3.fromcsv_impl", "ce0122605256dd62"),
  ("io.csv_py3.tocsv_impl", "79562d28d51078a0"),
  ("io.json.JsonView", "81b047865d3a6a40"),
  ("io.json._writejson", "735341b237bd47a1"),
  ("io.json._writeobj", "9e23211b28e87cca"),
  ("io.json.iterjlines", "cfd69f88da6ea212"),
  ("io.json.tojson", "e724fbba992de4ce"),
  ("io.json.tojsonarrays", "036916cdf6942750"),
  ("io.pickle.PickleView", "d5a9908c244c71b9"),
  ("io.pickle._writepickle", "4894aae22d46722a"),
  ("io.pickle.appendpickle", "54d31b3e3c5b66da"),
  ("io.pickle.topickle", "1d7f5afc949f5e5b"),
  ("io.sources.BZ2Source", "aa25556b80716f26"),
  ("io.sources.FileSource", "fe21ee3d44444396"),
  ("io.sources.GzipSource", "2dda4db88d9716b7"),
  ("io.sources.MemorySource", "8dcd95dbd19f32b8")
]

/-- every function or class the model of C15 mirrors still has the body it was validated against -/
theorem C15_sources_as_validated : fpC15 = expectedC15 := rfl

end Petl.Snapshot
