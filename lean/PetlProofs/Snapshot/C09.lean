/-
  Snapshot of the petl function bodies the hand-written model of C09 was validated against
  (tools/source_snapshot.py, run by the reviewer).  `Petl.Gen.fpC09` is regenerated from the source on every run.
-/
import Petl.Gen.FpC09

namespace Petl.Snapshot
open Petl.Gen

def expectedC09 : List (String × String) := [
  ("file:comparison.py", "c46d05a1308c92ce"),
  ("file:compat.py", "2a259e16acd200bc"),
  ("file:config.py", "142bde514c82c29d"),
  ("file:transform/basics.py", "093d71f68c43a00a"),
  ("file:transform/dedup.py", "bd5f47cbc6d0c73d"),
  ("file:transform/reductions.py", "bbf60b10e10110b8"),
  ("file:transform/sorts.py", "137f7e8a70e043fe"),
  ("file:util/base.py", "771a68108eeb730d"),
  ("file:util/counting.py", "d1842a2eb811b294"),
  ("transform.reductions.MultiAggregateView", "991cad24f5d44e50"),
  ("transform.reductions.SimpleAggregateView", "234efe16a0c64fe4"),
  ("transform.reductions.groupselectfirst", "d6c100b970ef3e59"),
  ("transform.reductions.groupselectlast", "8af5dae8d1e7d549"),
  ("transform.reductions.groupselectmax", "571391b3e4e5a0d9"),
  ("transform.reductions.groupselectmin", "c7ddeb002b2da3d3"),
  ("transform.reductions.iterfold", "008a11c035764541"),
  ("transform.reductions.itermergeduplicates", "b9b09ef707696fc6"),
  ("transform.reductions.itermultiaggregate", "2d2ee34929687eeb"),
  ("transform.reductions.iterrowreduce", "10ad0bff66a50cc3"),
  ("transform.reductions.itersimpleaggregate", "a60fcc47e481ad91"),
  ("util.base.rowgroupby", "afbe1d16a7951a17")
]

/-- every function or class the model of C09 mirrors still has the body it was validated against -/
theorem C09_sources_as_validated : fpC09 = expectedC09 := rfl

end Petl.Snapshot
