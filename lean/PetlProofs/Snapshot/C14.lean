/-
  Snapshot of the petl function bodies the hand-written model of C14 was validated against
  (tools/source_snapshot.py, run by the reviewer).  `Petl.Gen.fpC14` is regenerated from the source on every run.
-/
import Petl.Gen.FpC14

namespace Petl.Snapshot
open Petl.Gen

def expectedC14 : List (String × String) := [
  ("file:comparison.py", "c46d05a1308c92ce"),
  ("file:compat.py", "2a259e16acd200bc"),
  ("file:config.py", "142bde514c82c29d"),
  ("file:io/base.py", "e2315106bbcaaf95"),
  ("file:io/json.py", "88171728b8aebfec"),
  ("file:transform/regex.py", "7acd499a0489265c"),
  ("file:transform/reshape.py", "b1f08e12c952f763"),
  ("file:transform/sorts.py", "137f7e8a70e043fe"),
  ("file:transform/unpacks.py", "dc09fa3e6a63a9d8"),
  ("file:util/base.py", "771a68108eeb730d"),
  ("file:util/materialise.py", "66208e10041a09c8"),
  ("io.json.DictsView", "0730cd8e741c1a29"),
  ("io.json.iterdicts", "0c25092df070e5c5"),
  ("transform.regex.itercapture", "0644195b669301b0"),
  ("transform.regex.itersplit", "03ea6b898ba44dc6"),
  ("transform.regex.itersplitdown", "3daabc31aa75deb4"),
  ("transform.reshape.FlattenView", "5fc5230cb9bc0f2b"),
  ("transform.reshape.UnflattenView", "5f577361423f6aa7"),
  ("transform.reshape.itermelt", "65263f3aa79af60b"),
  ("transform.reshape.iterpivot", "395bb26e4fdfc15e"),
  ("transform.reshape.iterrecast", "e11b8f8444c41df5"),
  ("transform.reshape.itertranspose", "ff40ae8f0c651466"),
  ("transform.unpacks.iterunpack", "07feefca2ee4294b"),
  ("transform.unpacks.iterunpackdict", "1e5340f0eb69a9a3"),
  ("util.materialise.columns", "b01b7c3eaa4ba4eb")
]

/-- every function or class the model of C14 mirrors still has the body it was validated against -/
theorem C14_sources_as_validated : fpC14 = expectedC14 := rfl

end Petl.Snapshot
