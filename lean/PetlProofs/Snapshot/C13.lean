/-
  Snapshot of the petl function bodies the hand-written model of C13 was validated against
  (tools/source_snapshot.py, run by the reviewer).  `Petl.Gen.fpC13` is regenerated from the source on every run.
-/
import Petl.Gen.FpC13

namespace Petl.Snapshot
open Petl.Gen

def expectedC13 : List (String × String) := [
  ("file:comparison.py", "c46d05a1308c92ce"),
  ("file:compat.py", "2a259e16acd200bc"),
  ("file:config.py", "142bde514c82c29d"),
  ("file:transform/basics.py", "093d71f68c43a00a"),
  ("file:transform/headers.py", "b170f0cc5a1c0354"),
  ("file:transform/regex.py", "7acd499a0489265c"),
  ("file:transform/selects.py", "f935e8905e1e021c"),
  ("file:util/base.py", "771a68108eeb730d"),
  ("transform.basics.head", "14e815556131ea10"),
  ("transform.basics.iterrowslice", "8702797bf2f3a3f8"),
  ("transform.basics.itertail", "c873a4078b472ed7"),
  ("transform.headers.iterskip", "c4a0cb1e97dd7b3d"),
  ("transform.selects.biselect", "a096252a8d24505c"),
  ("transform.selects.facet", "93f96a6abfa56357"),
  ("transform.selects.iterfieldselect", "1972a22696a83cc6"),
  ("transform.selects.iterrowselect", "e3fcfd8d72b4cf96"),
  ("transform.selects.rowlenselect", "f6cfb12f16a710b3")
]

/-- every function or class the model of C13 mirrors still has the body it was validated against -/
theorem C13_sources_as_validated : fpC13 = expectedC13 := rfl

end Petl.Snapshot
