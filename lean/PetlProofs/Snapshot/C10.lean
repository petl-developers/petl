/-
  Snapshot of the petl function bodies the hand-written model of C10 was validated against
  (tools/source_snapshot.py, run by the reviewer).  `Petl.Gen.fpC10` is regenerated from the source on every run.
-/
import Petl.Gen.FpC10

namespace Petl.Snapshot
open Petl.Gen

def expectedC10 : List (String × String) := [
  ("file:comparison.py", "c46d05a1308c92ce"),
  ("file:compat.py", "2a259e16acd200bc"),
  ("file:config.py", "142bde514c82c29d"),
  ("file:transform/dedup.py", "bd5f47cbc6d0c73d"),
  ("file:transform/sorts.py", "137f7e8a70e043fe"),
  ("file:util/base.py", "771a68108eeb730d"),
  ("transform.dedup.DistinctView", "93824747ea188389"),
  ("transform.dedup.isunique", "ae424b2c66465559"),
  ("transform.dedup.iterconflicts", "a8099413abafefa1"),
  ("transform.dedup.iterduplicates", "b089397d38c1d73c"),
  ("transform.dedup.iterunique", "3a3a4a7083f76d63")
]

/-- every function or class the model of C10 mirrors still has the body it was validated against -/
theorem C10_sources_as_validated : fpC10 = expectedC10 := rfl

end Petl.Snapshot
