/-
  The first-minimal k-way merge of sorted runs and the chunked external sort are *the* stable sort,
  for any number of runs of any lengths.

  "The stable sort" is a specification (`IsStableSortOf`: ordered, and every key class in input order)
  that at most one list meets.  `List.mergeSort` meets it; so does `kmerge`, each step of which is a
  step of a selection sort; hence `sortRows` is `mergeSort` whatever the buffer size.  All this for
  any total preorder `le`.  The end of the file takes for `le` the order of rows by their keys
  (`rowLe`, a total preorder because `Val.lt` is a strict weak order, PetlProofs/Order.lean) and puts
  the results in the forms the sort-backed operators use.
-/
import Petl.Sort
import PetlProofs.Order

namespace Petl
variable {α : Type} {le : α → α → Bool}

structure TotalPre (le : α → α → Bool) : Prop where
  total : ∀ a b, le a b = true ∨ le b a = true
  trans : ∀ a b c, le a b = true → le b c = true → le a c = true

theorem TotalPre.refl (hp : TotalPre le) (a : α) : le a a = true :=
  or_self_iff.1 (hp.total a a)

theorem TotalPre.total' (hp : TotalPre le) (a b : α) : (le a b || le b a) = true :=
  Bool.or_eq_true_iff.2 (hp.total a b)

def eqv (le : α → α → Bool) (a b : α) : Bool := le a b && le b a

theorem eqv_iff {a b : α} : eqv le a b = true ↔ le a b = true ∧ le b a = true :=
  Bool.and_eq_true_iff

def SortedL (le : α → α → Bool) (l : List α) : Prop := l.Pairwise (fun a b => le a b = true)

theorem SortedL.head_le (hp : TotalPre le) {x : α} {t : List α} (h : SortedL le (x :: t)) :
    ∀ y ∈ x :: t, le x y = true :=
  List.forall_mem_cons.2 ⟨hp.refl x, (List.pairwise_cons.1 h).1⟩

/-- `out` is the stable sort of `inp`: ordered, and every key class appears in input order -/
def IsStableSortOf (le : α → α → Bool) (out inp : List α) : Prop :=
  SortedL le out ∧ ∀ a, out.filter (eqv le a) = inp.filter (eqv le a)

def RunsSorted (le : α → α → Bool) (runs : List (Run α)) : Prop :=
  ∀ r ∈ runs, SortedL le r.toList

theorem pickMin_none (le : α → α → Bool) (runs : List (Run α)) : pickMin le runs = none → runs = [] := by
  fun_induction pickMin le runs <;> simp

theorem pickMin_spec (le : α → α → Bool) (hp : TotalPre le) :
    ∀ (runs : List (Run α)) i m, pickMin le runs = some (i, m) →
      (∃ r, runs[i]? = some r ∧ r.1 = m) ∧
      (∀ r ∈ runs, le m r.1 = true) ∧
      (∀ j r, j < i → runs[j]? = some r → le r.1 m = false) := by
  intro runs i m h
  fun_induction pickMin le runs generalizing i m with
  | case1 => cases h
  | case2 hd tl rest hq =>
    cases h; cases pickMin_none le rest hq
    exact ⟨⟨_, rfl, rfl⟩, List.forall_mem_singleton.2 (hp.refl hd), nofun⟩
  | case3 hd tl rest j m' hq hle ih =>
    cases h
    exact ⟨⟨_, rfl, rfl⟩,
      List.forall_mem_cons.2 ⟨hp.refl hd, fun r hr => hp.trans _ _ _ hle ((ih j m' hq).2.1 r hr)⟩, nofun⟩
  | case4 hd tl rest j m' hq hle ih =>
    cases h
    obtain ⟨hi, hall, hbefore⟩ := ih j m' hq
    refine ⟨hi, List.forall_mem_cons.2 ⟨(hp.total m' hd).resolve_right hle, hall⟩, fun k r hk hr => ?_⟩
    cases k with
    | zero => cases hr; exact Bool.eq_false_iff.2 hle
    | succ k => exact hbefore k r (Nat.lt_of_succ_lt_succ hk) hr

theorem flat_cons (r : Run α) (rest : List (Run α)) : flat (r :: rest) = r.toList ++ flat rest := rfl

theorem adv_decomp (le : α → α → Bool) (hp : TotalPre le) :
    ∀ (runs : List (Run α)) i m,
      (∃ r, runs[i]? = some r ∧ r.1 = m) →
      (∀ j r, j < i → runs[j]? = some r → le r.1 m = false) →
      RunsSorted le runs →
      ∃ before after, flat runs = before ++ m :: after ∧ flat (advance runs i) = before ++ after ∧
        (∀ x ∈ before, le x m = false) ∧ RunsSorted le (advance runs i) := by
  rintro runs i m ⟨r0, hr0, rfl⟩ hb hs
  fun_induction advance runs i with
  | case1 i => cases hr0
  | case2 hd rest =>
    cases hr0
    exact ⟨[], flat rest, rfl, rfl, nofun, (List.forall_mem_cons.1 hs).2⟩
  | case3 hd t ts rest =>
    cases hr0
    have ⟨hs1, hs2⟩ := List.forall_mem_cons.1 hs
    exact ⟨[], t :: ts ++ flat rest, rfl, rfl, nofun, List.forall_mem_cons.2 ⟨hs1.of_cons, hs2⟩⟩
  | case4 r rest i ih =>
    have ⟨hsr, hs'⟩ := List.forall_mem_cons.1 hs
    obtain ⟨before, after, h1, h2, h3, h4⟩ :=
      ih hr0 (fun j r hj hr => hb (j+1) r (Nat.succ_lt_succ hj) hr) hs'
    have hhd : le r.1 r0.1 = false := hb 0 r (Nat.succ_pos i) rfl
    refine ⟨r.toList ++ before, after, by rw [flat_cons, h1, List.append_assoc],
      by rw [flat_cons, h2, List.append_assoc],
      List.forall_mem_append.2 ⟨fun x hx => ?_, h3⟩, List.forall_mem_cons.2 ⟨hsr, h4⟩⟩
    -- the rows of an earlier run are above its head, which is strictly above `r0.1`
    cases h : le x r0.1
    · rfl
    · rw [hp.trans _ _ _ (hsr.head_le hp x hx) h] at hhd; cases hhd

theorem mem_of_filter_eqv (hp : TotalPre le) {o1 o2 : List α}
    (h : ∀ a, o1.filter (eqv le a) = o2.filter (eqv le a)) {x : α} (hx : x ∈ o1) : x ∈ o2 := by
  have hx' : x ∈ o1.filter (eqv le x) := List.mem_filter.2 ⟨hx, eqv_iff.2 ⟨hp.refl x, hp.refl x⟩⟩
  rw [h x] at hx'
  exact (List.mem_filter.1 hx').1

/-- one step of a selection sort: an element below everything, and strictly below everything before
    it, comes first in the stable sort -/
theorem IsStableSortOf.cons (hp : TotalPre le) {m : α} {out before after : List α}
    (hle : ∀ x ∈ before ++ m :: after, le m x = true) (hlt : ∀ x ∈ before, le x m = false)
    (h : IsStableSortOf le out (before ++ after)) :
    IsStableSortOf le (m :: out) (before ++ m :: after) := by
  refine ⟨List.pairwise_cons.2 ⟨fun x hx => hle x ?_, h.1⟩, fun a => ?_⟩
  · exact ((List.sublist_cons_self m after).append_left before).subset (mem_of_filter_eqv hp h.2 hx)
  · rw [List.filter_cons, h.2, List.filter_append, List.filter_append, List.filter_cons]
    split
    next hav =>
      -- nothing before `m` is in its class: it would be below `m`
      have : before.filter (eqv le a) = [] := List.filter_eq_nil_iff.2 fun x hx hxa =>
        Bool.eq_false_iff.1 (hlt x hx) (hp.trans _ _ _ (eqv_iff.1 hxa).2 (eqv_iff.1 hav).1)
      rw [this, List.nil_append, List.nil_append]
    next => rfl

/-- each step of the merge is a selection step in the sense of `IsStableSortOf.cons` -/
theorem kmerge_isStableSort (hp : TotalPre le) (runs : List (Run α))
    (hs : RunsSorted le runs) : IsStableSortOf le (kmerge le runs) (flat runs) := by
  fun_induction kmerge le runs with
  | case1 runs hnone => cases pickMin_none le runs hnone; exact ⟨List.Pairwise.nil, fun _ => rfl⟩
  | case2 runs i m hsome ih =>
    obtain ⟨hi, hall, hb⟩ := pickMin_spec le hp runs i m hsome
    obtain ⟨before, after, h1, h2, h3, h4⟩ := adv_decomp le hp runs i m hi hb hs
    -- `m` is below every head, hence below every row
    have hle : ∀ x ∈ flat runs, le m x = true := List.forall_mem_flatten.2 <| List.forall_mem_map.2
      fun r hr x hx => hp.trans _ _ _ (hall r hr) ((hs r hr).head_le hp x hx)
    rw [h1] at hle ⊢
    exact .cons hp hle h3 (h2 ▸ ih h4)

theorem kmerge_filter (le : α → α → Bool) (hp : TotalPre le) (a : α) :
    ∀ (n : Nat) (runs : List (Run α)), total runs = n → RunsSorted le runs →
      (kmerge le runs).filter (eqv le a) = (flat runs).filter (eqv le a) :=
  fun _ runs _ hs => (kmerge_isStableSort hp runs hs).2 a

theorem eqv_symm (le : α → α → Bool) (a b : α) : eqv le a b = eqv le b a := by
  simp [eqv, Bool.and_comm]

theorem stableSort_unique (hp : TotalPre le) (o1 o2 : List α)
    (h1 : SortedL le o1) (h2 : SortedL le o2) (h : ∀ a, o1.filter (eqv le a) = o2.filter (eqv le a)) :
    o1 = o2 := by
  induction o1 generalizing o2 with
  | nil =>
    cases o2 with
    | nil => rfl
    | cons y t => cases mem_of_filter_eqv hp (fun a => (h a).symm) (List.mem_cons_self (a := y))
  | cons x t1 ih =>
    cases o2 with
    | nil => cases mem_of_filter_eqv hp h (List.mem_cons_self (a := x))
    | cons y t2 =>
      -- each head occurs in the other list, so the heads are in one class
      have hxy := h1.head_le hp y (mem_of_filter_eqv hp (fun a => (h a).symm) List.mem_cons_self)
      have hyx := h2.head_le hp x (mem_of_filter_eqv hp h List.mem_cons_self)
      -- and each is the first of that class
      have hhead := h x
      rw [List.filter_cons_of_pos (eqv_iff.2 ⟨hp.refl x, hp.refl x⟩),
        List.filter_cons_of_pos (eqv_iff.2 ⟨hxy, hyx⟩)] at hhead
      cases (List.cons.inj hhead).1
      refine congrArg _ (ih t2 h1.of_cons h2.of_cons fun a => ?_)
      cases hax : eqv le a x <;> simpa [hax] using h a

theorem IsStableSortOf.unique (hp : TotalPre le) {o1 o2 inp : List α}
    (h1 : IsStableSortOf le o1 inp) (h2 : IsStableSortOf le o2 inp) : o1 = o2 :=
  stableSort_unique hp o1 o2 h1.1 h2.1 fun a => (h1.2 a).trans (h2.2 a).symm

/-- a stable sort keeps any set of mutually `le`-related elements in input order: they survive the
    sort as a sublist, and the lengths agree -/
theorem mergeSort_filter_clique (hp : TotalPre le) (p : α → Bool)
    (hc : ∀ x y, p x = true → p y = true → le x y = true) (l : List α) :
    (l.mergeSort le).filter p = l.filter p := by
  have hsub : List.Sublist (l.filter p) (l.mergeSort le) :=
    List.sublist_mergeSort hp.trans hp.total' (List.pairwise_of_forall_mem_list fun x hx y hy =>
      hc x y (List.mem_filter.1 hx).2 (List.mem_filter.1 hy).2) List.filter_sublist
  have hsub2 : List.Sublist (l.filter p) ((l.mergeSort le).filter p) := by
    simpa using hsub.filter p
  exact (hsub2.eq_of_length ((List.mergeSort_perm l le).filter p).length_eq.symm).symm

theorem mergeSort_filter (hp : TotalPre le) (l : List α) (a : α) :
    (l.mergeSort le).filter (eqv le a) = l.filter (eqv le a) :=
  mergeSort_filter_clique hp _ (fun _ _ hx hy => hp.trans _ _ _ (eqv_iff.1 hx).2 (eqv_iff.1 hy).1) l

theorem mergeSort_isStableSort (hp : TotalPre le) (l : List α) :
    IsStableSortOf le (l.mergeSort le) l :=
  ⟨List.pairwise_mergeSort hp.trans hp.total' l, mergeSort_filter hp l⟩

theorem IsStableSortOf.eq_mergeSort (hp : TotalPre le) {out inp : List α}
    (h : IsStableSortOf le out inp) : out = inp.mergeSort le :=
  h.unique hp (mergeSort_isStableSort hp inp)

theorem flat_toRuns (ls : List (List α)) : flat (toRuns ls) = ls.flatten := by
  fun_induction toRuns ls with
  | case1 => rfl
  | case2 rest ih => exact ih
  | case3 x xs rest ih => rw [flat_cons, ih]; rfl

theorem mem_toRuns (ls : List (List α)) : ∀ r ∈ toRuns ls, r.toList ∈ ls := by
  fun_induction toRuns ls with
  | case1 => nofun
  | case2 rest ih => exact fun r hr => List.mem_cons_of_mem _ (ih r hr)
  | case3 x xs rest ih =>
    exact List.forall_mem_cons.2 ⟨List.mem_cons_self, fun r hr => List.mem_cons_of_mem _ (ih r hr)⟩

theorem mergeSorted_eq_mergeSort (hp : TotalPre le) (ls : List (List α))
    (hs : ∀ l ∈ ls, SortedL le l) : mergeSorted le ls = ls.flatten.mergeSort le := by
  rw [← flat_toRuns]
  exact (kmerge_isStableSort hp _ fun r hr => hs _ (mem_toRuns ls r hr)).eq_mergeSort hp

theorem kmerge_sorted_pieces (hp : TotalPre le) (cs : List (List α)) :
    kmerge le (toRuns (cs.map (fun c => c.mergeSort le))) = (cs.flatten).mergeSort le := by
  refine (mergeSorted_eq_mergeSort hp _ (List.forall_mem_map.2 fun c _ => (mergeSort_isStableSort hp c).1)).trans
    (IsStableSortOf.eq_mergeSort hp ⟨?_, fun a => ?_⟩)
  · exact (mergeSort_isStableSort hp _).1
  · -- sorting a piece leaves each of its key classes as it was
    rw [mergeSort_filter hp, List.filter_flatten, List.filter_flatten, List.map_map]
    exact congrArg _ (List.map_congr_left fun c _ => mergeSort_filter hp c a)

theorem chunksAux_flatten (b : Nat) (hb : 1 ≤ b) (fuel : Nat) (l : List α) (hl : l.length ≤ fuel) :
    (chunksAux b fuel l).flatten = l := by
  fun_induction chunksAux b fuel l with
  | case1 l => exact (List.eq_nil_of_length_eq_zero (Nat.le_zero.1 hl)).symm
  | case2 fuel l he => exact (List.isEmpty_iff.1 he).symm
  | case3 fuel l he ih =>
    have hd : (l.drop b).length ≤ fuel :=
      List.length_drop ▸ Nat.sub_le_of_le_add (Nat.le_trans hl (Nat.add_le_add_left hb fuel))
    rw [List.flatten_cons, ih hd, List.take_append_drop]

theorem chunks_flatten (b : Nat) (hb : 1 ≤ b) (l : List α) : (chunks b l).flatten = l :=
  chunksAux_flatten b hb l.length l (Nat.le_refl _)

theorem sortRows_eq_mergeSort (hp : TotalPre le) (b : Nat) (hb : 1 ≤ b)
    (rows : List α) : sortRows le (some b) rows = rows.mergeSort le := by
  simp only [sortRows]
  split
  next h =>
    -- a table longer than `b` would fill the first chunk
    rw [List.take_of_length_le (Nat.le_of_not_lt fun hlt => Nat.ne_of_lt h (List.length_take_of_le (Nat.le_of_lt hlt)))]
  next => rw [kmerge_sorted_pieces hp, chunks_flatten b hb]

theorem sortRows_eq (hp : TotalPre le) (bs : Option Nat)
    (hbs : ∀ b, bs = some b → 1 ≤ b) (rows : List α) : sortRows le bs rows = rows.mergeSort le := by
  cases bs with
  | none => rfl
  | some b => exact sortRows_eq_mergeSort hp b (hbs b rfl) rows

theorem sortRows_isStableSort (hp : TotalPre le) (bs : Option Nat)
    (hbs : ∀ b, bs = some b → 1 ≤ b) (rows : List α) : IsStableSortOf le (sortRows le bs rows) rows :=
  sortRows_eq hp bs hbs rows ▸ mergeSort_isStableSort hp rows

theorem TotalPre.flip (hp : TotalPre le) : TotalPre (fun a b => le b a) :=
  ⟨fun a b => hp.total b a, fun a b c h1 h2 => hp.trans c b a h2 h1⟩

theorem TotalPre.comap {β : Type} (hp : TotalPre le) (f : β → α) :
    TotalPre (fun a b => le (f a) (f b)) :=
  ⟨fun _ _ => hp.total _ _, fun _ _ _ => hp.trans _ _ _⟩

theorem StrictWeakOrder.totalPre {lt eq : α → α → Bool} (o : StrictWeakOrder lt eq) :
    TotalPre (fun a b => !lt b a) where
  total a b := by rcases o.tri a b with ⟨_, _, _, h⟩ | ⟨_, _, _, h⟩ | ⟨h, _, _, _⟩ <;> simp [h]
  trans a b c h1 h2 := by
    simp only [Bool.not_eq_true'] at h1 h2 ⊢
    exact o.le_trans a b c h1 h2

theorem rowLe_totalPre (idx : List Nat) (reverse : Bool) : TotalPre (rowLe idx reverse) := by
  have asc : TotalPre (rowLe idx false) := Val.strictWeakOrder.totalPre.comap (getKey idx)
  cases reverse
  · exact asc
  · exact asc.flip

theorem eqv_rowLe (idx : List Nat) (a b : Row) :
    eqv (rowLe idx false) a b = Val.eq (getKey idx a) (getKey idx b) :=
  by rw [Bool.eq_iff_iff, eqv_iff, ← Val.incomparable_iff_eq, and_comm]; simp [rowLe]

theorem sortRows_perm (idx : List Nat) (rev : Bool) (bs : Option Nat) (hbs : ∀ b, bs = some b → 1 ≤ b)
    (rows : List Row) : (sortRows (rowLe idx rev) bs rows).Perm rows :=
  sortRows_eq (rowLe_totalPre idx rev) bs hbs rows ▸ List.mergeSort_perm rows _

section keySort
variable (idx : List Nat) (bs : Option Nat) (hbs : ∀ b, bs = some b → 1 ≤ b) (rows : List Row)
include hbs

theorem sortRows_sorted :
    (sortRows (rowLe idx false) bs rows).Pairwise (fun a b => Val.lt (getKey idx b) (getKey idx a) = false) := by
  simpa [SortedL, rowLe] using (sortRows_isStableSort (rowLe_totalPre idx false) bs hbs rows).1

/-- by key *value*: no row of the table need have the key `k` -/
theorem sortRows_filter_key (k : Val) :
    (sortRows (rowLe idx false) bs rows).filter (fun r => Val.eq (getKey idx r) k)
      = rows.filter (fun r => Val.eq (getKey idx r) k) := by
  rw [sortRows_eq (rowLe_totalPre idx false) bs hbs]
  apply mergeSort_filter_clique (rowLe_totalPre idx false)
  intro x y hx hy
  simp [rowLe, ((Val.incomparable_iff_eq _ _).2 ((Val.eq_congr_right _ _ _ hy).trans hx)).2]

end keySort

end Petl
