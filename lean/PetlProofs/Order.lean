/-
  `Val.lt`/`Val.eq` form a strict weak order whose equivalence is `Val.eq`, for every value of
  the (unboundedly nested) domain.

  A strict weak order is taken as a pair of Boolean relations with two laws, trichotomy and
  transitivity of `≤`, where `a ≤ b` is `lt b a = false` (`StrictWeakOrder`); everything else is
  derived from these once, for any such pair.  The two laws are proved for numbers, code-point
  lists and integers (linear orders), then for values and lists of values together: values of
  different kinds are ordered by `Val.kind`, values of the same kind by their contents.

  At the end, facts about the other definitions of Petl/Val.lean: raw `==` (`Val.pyEq`) is reflexive,
  what `getCell` reads from a row built by `++`, and `getKey` in terms of the key cells.
-/
import Petl.Val

namespace Petl

/-- Of `p = (a < b)`, `e = (a == b)`, `q = (b < a)` exactly one holds, and `e' = (b == a)`
    agrees with `e`. -/
inductive Tri (p e e' q : Bool) : Prop
  | lt : p = true → e = false → e' = false → q = false → Tri p e e' q
  | eq : p = false → e = true → e' = true → q = false → Tri p e e' q
  | gt : p = false → e = false → e' = false → q = true → Tri p e e' q

theorem Tri.eq_iff {p e e' q : Bool} (h : Tri p e e' q) : e = true ↔ p = false ∧ q = false := by
  rcases h with ⟨rfl, rfl, _, rfl⟩ | ⟨rfl, rfl, _, rfl⟩ | ⟨rfl, rfl, _, rfl⟩ <;> simp

/-- lexicographic combination of heads and tails, as in `Val.ltList`/`Val.eqList` -/
theorem Tri.lex {p e e' q p₂ e₂ e₂' q₂ : Bool} (h : Tri p e e' q) (t : Tri p₂ e₂ e₂' q₂) :
    Tri (if e then p₂ else p) (e && e₂) (e' && e₂') (if e' then q₂ else q) := by
  rcases h with ⟨rfl, rfl, rfl, rfl⟩ | ⟨rfl, rfl, rfl, rfl⟩ | ⟨rfl, rfl, rfl, rfl⟩
  · exact .lt rfl rfl rfl rfl
  · exact t
  · exact .gt rfl rfl rfl rfl

/-- the derived operators `>` (`not (< or ==)`) and `>=` (`not <`) are `<` and `<=` with the operands swapped -/
theorem Tri.swap {p e e' q : Bool} (h : Tri p e e' q) : (!(p || e)) = q ∧ (!p) = (q || e') := by
  rcases h with ⟨rfl, rfl, rfl, rfl⟩ | ⟨rfl, rfl, rfl, rfl⟩ | ⟨rfl, rfl, rfl, rfl⟩ <;> exact ⟨rfl, rfl⟩

structure StrictWeakOrder {α : Type} (lt eq : α → α → Bool) : Prop where
  tri : ∀ a b, Tri (lt a b) (eq a b) (eq b a) (lt b a)
  le_trans : ∀ a b c, lt b a = false → lt c b = false → lt c a = false

namespace StrictWeakOrder
variable {α : Type} {lt eq : α → α → Bool} (o : StrictWeakOrder lt eq)
include o

theorem total (a b : α) : lt a b = true ∨ eq a b = true ∨ lt b a = true := by
  rcases o.tri a b with ⟨h, _, _, _⟩ | ⟨_, h, _, _⟩ | ⟨_, _, _, h⟩ <;> simp [h]

theorem eq_symm (a b : α) : eq a b = eq b a := by
  rcases o.tri a b with ⟨_, h, h', _⟩ | ⟨_, h, h', _⟩ | ⟨_, h, h', _⟩ <;> rw [h, h']

theorem lt_asymm (a b : α) (h : lt a b = true) : lt b a = false := by
  rcases o.tri a b with ⟨_, _, _, h'⟩ | ⟨h', _, _, _⟩ | ⟨h', _, _, _⟩ <;> simp_all

theorem lt_ne (a b : α) (h : lt a b = true) : eq a b = false := by
  rcases o.tri a b with ⟨_, h', _, _⟩ | ⟨h', _, _, _⟩ | ⟨h', _, _, _⟩ <;> simp_all

theorem gt_ne (a b : α) (h : lt b a = true) : eq a b = false :=
  o.eq_symm b a ▸ o.lt_ne b a h

theorem incomparable_iff_eq (a b : α) : (lt a b = false ∧ lt b a = false) ↔ eq a b = true :=
  (o.tri a b).eq_iff.symm

theorem lt_irrefl (a : α) : lt a a = false := by
  cases h : lt a a
  · rfl
  · exact h.symm.trans (o.lt_asymm a a h)

theorem eq_refl (a : α) : eq a a = true :=
  (o.incomparable_iff_eq a a).1 ⟨o.lt_irrefl a, o.lt_irrefl a⟩

theorem lt_of_lt_of_le (a b c : α) (h1 : lt a b = true) (h2 : lt c b = false) : lt a c = true := by
  cases h : lt a c
  · exact (o.le_trans b c a h2 h).symm.trans h1
  · rfl

theorem lt_of_le_of_lt (a b c : α) (h1 : lt b a = false) (h2 : lt b c = true) : lt a c = true := by
  cases h : lt a c
  · exact (o.le_trans c a b h h1).symm.trans h2
  · rfl

theorem lt_trans (a b c : α) (h1 : lt a b = true) (h2 : lt b c = true) : lt a c = true :=
  o.lt_of_lt_of_le a b c h1 (o.lt_asymm b c h2)

theorem eq_trans (a b c : α) (h1 : eq a b = true) (h2 : eq b c = true) : eq a c = true := by
  have ⟨ab, ba⟩ := (o.incomparable_iff_eq a b).2 h1
  have ⟨bc, cb⟩ := (o.incomparable_iff_eq b c).2 h2
  exact (o.incomparable_iff_eq a c).1 ⟨o.le_trans c b a bc ab, o.le_trans a b c ba cb⟩

theorem eq_congr_right (a b c : α) (h : eq b c = true) : eq a b = eq a c :=
  Bool.eq_iff_iff.2 ⟨fun h1 => o.eq_trans a b c h1 h, fun h2 => o.eq_trans a c b h2 (o.eq_symm b c ▸ h)⟩

theorem eq_congr_left (a b c : α) (h : eq a b = true) : eq a c = eq b c := by
  rw [o.eq_symm a c, o.eq_symm b c]; exact o.eq_congr_right c a b h

theorem lt_congr_left (a b c : α) (h : eq a b = true) : lt a c = lt b c :=
  have ⟨ab, ba⟩ := (o.incomparable_iff_eq a b).2 h
  Bool.eq_iff_iff.2 ⟨o.lt_of_le_of_lt b a c ab, o.lt_of_le_of_lt a b c ba⟩

theorem lt_congr_right (a b c : α) (h : eq b c = true) : lt a b = lt a c :=
  have ⟨bc, cb⟩ := (o.incomparable_iff_eq b c).2 h
  Bool.eq_iff_iff.2 ⟨fun h => o.lt_of_lt_of_le a b c h cb, fun h => o.lt_of_lt_of_le a c b h bc⟩

end StrictWeakOrder

theorem StrictWeakOrder.of_linear {α : Type} {lt eq : α → α → Bool}
    (eq_iff : ∀ a b, eq a b = true ↔ a = b)
    (irrefl : ∀ a, lt a a = false)
    (trans : ∀ a b c, lt a b = true → lt b c = true → lt a c = true)
    (tri : ∀ a b, lt a b = true ∨ a = b ∨ lt b a = true) :
    StrictWeakOrder lt eq where
  tri a b := by
    have asymm : ∀ a b, lt a b = true → lt b a = false := fun a b h => by
      cases h' : lt b a
      · rfl
      · exact (trans a b a h h').symm.trans (irrefl a)
    have ne : ∀ a b, lt a b = true → eq a b = false ∧ eq b a = false := fun a b h => by
      have : a ≠ b := fun e => by rw [e, irrefl] at h; cases h
      exact ⟨Bool.eq_false_iff.2 (mt (eq_iff a b).1 this), Bool.eq_false_iff.2 (mt (eq_iff b a).1 this.symm)⟩
    rcases tri a b with h | h | h
    · exact .lt h (ne a b h).1 (ne a b h).2 (asymm a b h)
    · subst h; exact .eq (irrefl a) ((eq_iff a a).2 rfl) ((eq_iff a a).2 rfl) (irrefl a)
    · exact .gt (asymm b a h) (ne b a h).2 (ne b a h).1 h
  le_trans a b c h1 h2 := by
    cases h : lt c a
    · rfl
    · rcases tri b a with h3 | h3 | h3
      · exact h3.symm.trans h1
      · subst h3; exact h.symm.trans h2
      · exact (trans c a b h h3).symm.trans h2

/-- used at `Int` (date, datetime, time) and, through `natListLt_eq_decide`, at `List Nat` (bytes, str) -/
theorem StrictWeakOrder.of_decide_lt {α : Type} [LT α] [DecidableLT α] [DecidableEq α]
    [Std.Irrefl (α := α) (· < ·)] [Trans (α := α) (· < ·) (· < ·) (· < ·)]
    [Std.Trichotomous (α := α) (· < ·)] :
    StrictWeakOrder (fun a b : α => decide (a < b)) (fun a b => decide (a = b)) :=
  .of_linear (by simp) (fun _ => decide_eq_false Std.lt_irrefl)
    (fun _ _ _ h1 h2 => decide_eq_true (Std.lt_trans (of_decide_eq_true h1) (of_decide_eq_true h2)))
    (fun a b => by simpa using Std.lt_trichotomy a b)

namespace Num

theorem lt_irrefl (a : Num) : Num.lt a a = false := by
  cases a <;> simp [Num.lt]

theorem lt_trans (a b c : Num) : Num.lt a b = true → Num.lt b c = true → Num.lt a c = true := by
  cases a <;> cases b <;> cases c <;> simp [Num.lt]
  exact Std.lt_trans

theorem tri (a b : Num) : Num.lt a b = true ∨ a = b ∨ Num.lt b a = true := by
  cases a <;> cases b <;> simp [Num.lt]
  exact Std.lt_trichotomy _ _

theorem eq_iff (a b : Num) : Num.eq a b = true ↔ a = b := by
  cases a <;> cases b <;> simp [Num.eq]

theorem eq_refl (a : Num) : Num.eq a a = true := (eq_iff a a).2 rfl

theorem strictWeakOrder : StrictWeakOrder Num.lt Num.eq :=
  .of_linear eq_iff lt_irrefl lt_trans tri

theorem lt_asymm (a b : Num) : Num.lt a b = true → Num.lt b a = false :=
  strictWeakOrder.lt_asymm a b

end Num

theorem natListLt_eq_decide (a b : List Nat) : natListLt a b = decide (a < b) := by
  fun_induction natListLt a b with
  | case1 | case2 | case3 => simp
  | case4 a as bs ih => simp [ih]
  | case5 a as b bs h => simp [h, List.cons_lt_cons_iff]

theorem natListLt_strictWeakOrder : StrictWeakOrder natListLt (fun a b => decide (a = b)) :=
  (funext fun a => funext (natListLt_eq_decide a) : natListLt = fun a b => decide (a < b)) ▸
    .of_decide_lt

/- Proved by `simp only`, not `rfl`: the equation lemmas of `Val.lt` and `Val.eq` are then generated
   here, once, and not again in every later declaration that unfolds the two. -/
theorem Val.lt_seq (s t : Bool) (xs ys : List Val) :
    Val.lt (.seq s xs) (.seq t ys) = Val.ltList xs ys := by simp only [Val.lt]

theorem Val.eq_seq (s t : Bool) (xs ys : List Val) :
    Val.eq (.seq s xs) (.seq t ys) = Val.eqList xs ys := by simp only [Val.eq]

/-- position of a value's kind in the order: None, numbers, then the other kinds by `Val.rank` -/
def Val.kind : Val → Nat
  | .none => 0
  | .num _ _ => 1
  | v => v.rank + 1

theorem Val.eq_of_kind_ne {a b : Val} (h : a.kind ≠ b.kind) : Val.eq a b = false := by
  fun_cases Val.eq a b <;> first | rfl | exact absurd rfl h

theorem Val.lt_of_kind_ne {a b : Val} (h : a.kind ≠ b.kind) :
    Val.lt a b = decide (a.kind < b.kind) := by
  cases a <;> cases b <;> first | rfl | exact absurd rfl h

/-- The eight pairs of constructors of one kind: a case split on `SameKind.of_kind_eq` takes the place of
    the 64-way split on both values. -/
inductive SameKind : Val → Val → Prop
  | none : SameKind .none .none
  | num s m t n : SameKind (.num s m) (.num t n)
  | bytes x y : SameKind (.bytes x) (.bytes y)
  | str x y : SameKind (.str x) (.str y)
  | date x y : SameKind (.date x) (.date y)
  | datetime x y : SameKind (.datetime x) (.datetime y)
  | time x y : SameKind (.time x) (.time y)
  | seq s xs t ys : SameKind (.seq s xs) (.seq t ys)

theorem SameKind.of_kind_eq {a b : Val} (h : a.kind = b.kind) : SameKind a b := by
  cases a <;> cases b <;> first | constructor | cases h

theorem Val.tri_of_kind_lt {a b : Val} (h : a.kind < b.kind) :
    Val.lt a b = true ∧ Val.eq a b = false ∧ Val.eq b a = false ∧ Val.lt b a = false := by
  have ne := Nat.ne_of_lt h
  rw [Val.lt_of_kind_ne ne, Val.lt_of_kind_ne ne.symm, Val.eq_of_kind_ne ne, Val.eq_of_kind_ne ne.symm]
  exact ⟨decide_eq_true h, rfl, rfl, decide_eq_false (Nat.lt_asymm h)⟩

mutual
theorem Val.trichotomy (a b : Val) : Tri (Val.lt a b) (Val.eq a b) (Val.eq b a) (Val.lt b a) := by
  rcases Nat.lt_trichotomy a.kind b.kind with h | h | h
  · have ⟨h1, h2, h3, h4⟩ := Val.tri_of_kind_lt h; exact .lt h1 h2 h3 h4
  · cases SameKind.of_kind_eq h with
    | none => exact .eq rfl rfl rfl rfl
    | num s m t n => exact Num.strictWeakOrder.tri m n
    | bytes x y | str x y => exact natListLt_strictWeakOrder.tri x y
    | date x y | datetime x y | time x y => exact StrictWeakOrder.of_decide_lt.tri x y
    | seq s xs t ys => exact Val.trichotomyList xs ys
  · have ⟨h1, h2, h3, h4⟩ := Val.tri_of_kind_lt h; exact .gt h4 h3 h2 h1
theorem Val.trichotomyList : ∀ l m : List Val,
    Tri (Val.ltList l m) (Val.eqList l m) (Val.eqList m l) (Val.ltList m l)
  | [], [] => .eq rfl rfl rfl rfl
  | [], _ :: _ => .lt rfl rfl rfl rfl
  | _ :: _, [] => .gt rfl rfl rfl rfl
  | x :: xs, y :: ys => (Val.trichotomy x y).lex (Val.trichotomyList xs ys)
end

theorem Val.leList_cons (x y : Val) (xs ys : List Val) :
    Val.ltList (y :: ys) (x :: xs) = false ↔
      Val.lt y x = false ∧ (Val.eq y x = true → Val.ltList ys xs = false) := by
  rw [Val.ltList]
  rcases Val.trichotomy y x with ⟨h, e, _, _⟩ | ⟨h, e, _, _⟩ | ⟨h, e, _, _⟩ <;> simp [h, e]

theorem Val.lt_seq_singleton (s t : Bool) (x y : Val) : Val.lt (.seq s [x]) (.seq t [y]) = Val.lt x y := by
  rw [Val.lt_seq]
  rcases Val.trichotomy x y with ⟨h, e, _, _⟩ | ⟨h, e, _, _⟩ | ⟨h, e, _, _⟩ <;> simp [h, e, Val.ltList]

theorem Val.kind_le_of_not_lt {a b : Val} (h : Val.lt b a = false) : a.kind ≤ b.kind :=
  Nat.not_lt.1 fun hk => by rw [(Val.tri_of_kind_lt hk).1] at h; cases h

mutual
theorem Val.le_trans : ∀ a b c : Val, Val.lt b a = false → Val.lt c b = false → Val.lt c a = false
  | a, b, c, h1, h2 => by
    have k1 := Val.kind_le_of_not_lt h1
    have k2 := Val.kind_le_of_not_lt h2
    -- `a.kind ≤ b.kind ≤ c.kind`: either `a.kind < c.kind` and the kinds decide, or all three are of one kind
    by_cases h : a.kind < c.kind
    · exact (Val.tri_of_kind_lt h).2.2.2
    · have k3 := Nat.not_lt.1 h
      have bc := SameKind.of_kind_eq (Nat.le_antisymm k2 (Nat.le_trans k3 k1))
      cases SameKind.of_kind_eq (Nat.le_antisymm k1 (Nat.le_trans k2 k3)) with
      | none => cases bc; rfl
      | num => cases bc; exact Num.strictWeakOrder.le_trans _ _ _ h1 h2
      | bytes | str => cases bc; exact natListLt_strictWeakOrder.le_trans _ _ _ h1 h2
      | date | datetime | time => cases bc; exact StrictWeakOrder.of_decide_lt.le_trans _ _ _ h1 h2
      | seq => cases bc; exact Val.leList_trans _ _ _ h1 h2
termination_by a b c => sizeOf a + sizeOf b + sizeOf c
decreasing_by subst_vars; simp +arith only [Val.seq.sizeOf_spec]
theorem Val.leList_trans : ∀ l m n : List Val,
    Val.ltList m l = false → Val.ltList n m = false → Val.ltList n l = false
  | [], _, [] => fun _ _ => rfl
  | [], _, _ :: _ => fun _ _ => rfl
  | _ :: _, [], _ => fun h _ => nomatch h
  | _ :: _, _ :: _, [] => fun _ h => nomatch h
  | x :: xs, y :: ys, z :: zs => by
    have yx := Val.trichotomy y x
    have zy := Val.trichotomy z y
    have zx := Val.trichotomy z x
    simp only [Val.leList_cons]
    intro ⟨h1, t1⟩ ⟨h2, t2⟩
    refine ⟨Val.le_trans x y z h1 h2, fun e => ?_⟩
    -- `z == x` closes the cycle `x ≤ y ≤ z ≤ x`, so all three heads are equivalent
    have xz := (zx.eq_iff.1 e).2
    have yz := Val.le_trans z x y xz h1
    have xy := Val.le_trans y z x h2 xz
    exact Val.leList_trans xs ys zs (t1 (yx.eq_iff.2 ⟨h1, xy⟩)) (t2 (zy.eq_iff.2 ⟨h2, yz⟩))
termination_by l m n => sizeOf l + sizeOf m + sizeOf n
decreasing_by all_goals simp +arith only [List.cons.sizeOf_spec]
end

theorem Val.strictWeakOrder : StrictWeakOrder Val.lt Val.eq := ⟨Val.trichotomy, Val.le_trans⟩

theorem Val.strictWeakOrderList : StrictWeakOrder Val.ltList Val.eqList :=
  ⟨Val.trichotomyList, Val.leList_trans⟩

theorem Val.eq_refl (a : Val) : Val.eq a a = true := Val.strictWeakOrder.eq_refl a

theorem Val.eqList_refl (l : List Val) : Val.eqList l l = true := Val.strictWeakOrderList.eq_refl l

theorem Val.eq_symm (a b : Val) : Val.eq a b = Val.eq b a := Val.strictWeakOrder.eq_symm a b

theorem Val.eqList_symm : ∀ l m : List Val, Val.eqList l m = Val.eqList m l :=
  Val.strictWeakOrderList.eq_symm

theorem Val.eq_trans (a b c : Val) : Val.eq a b = true → Val.eq b c = true → Val.eq a c = true :=
  Val.strictWeakOrder.eq_trans a b c

theorem Val.eqList_trans : ∀ l m n : List Val,
    Val.eqList l m = true → Val.eqList m n = true → Val.eqList l n = true :=
  Val.strictWeakOrderList.eq_trans

theorem Val.eq_congr_left (a b c : Val) : Val.eq a b = true → Val.eq a c = Val.eq b c :=
  Val.strictWeakOrder.eq_congr_left a b c

theorem Val.eq_congr_right (a b c : Val) : Val.eq b c = true → Val.eq a b = Val.eq a c :=
  Val.strictWeakOrder.eq_congr_right a b c

theorem Val.lt_irrefl : ∀ a : Val, Val.lt a a = false := Val.strictWeakOrder.lt_irrefl

/-- by way of `kind`, which is finer: `rank` is 0 for None and for numbers alike -/
theorem Val.rank_of_eq (a b : Val) : Val.eq a b = true → a.rank = b.rank := by
  intro h
  by_cases hk : a.kind = b.kind
  · cases SameKind.of_kind_eq hk <;> rfl
  · rw [Val.eq_of_kind_ne hk] at h; cases h

theorem Val.lt_congr_left (a b c : Val) : Val.eq a b = true → Val.lt a c = Val.lt b c :=
  Val.strictWeakOrder.lt_congr_left a b c

theorem Val.ltList_congr_left : ∀ l m n : List Val,
    Val.eqList l m = true → Val.ltList l n = Val.ltList m n :=
  Val.strictWeakOrderList.lt_congr_left

theorem Val.lt_congr_right (a b c : Val) : Val.eq b c = true → Val.lt a b = Val.lt a c :=
  Val.strictWeakOrder.lt_congr_right a b c

theorem Val.ltList_congr_right : ∀ l m n : List Val,
    Val.eqList m n = true → Val.ltList l m = Val.ltList l n :=
  Val.strictWeakOrderList.lt_congr_right

theorem Val.tri (a b : Val) : Val.lt a b = true ∨ Val.eq a b = true ∨ Val.lt b a = true :=
  Val.strictWeakOrder.total a b

theorem Val.triList : ∀ l m : List Val,
    Val.ltList l m = true ∨ Val.eqList l m = true ∨ Val.ltList m l = true :=
  Val.strictWeakOrderList.total

theorem Val.lt_asymm : ∀ a b : Val, Val.lt a b = true → Val.lt b a = false :=
  Val.strictWeakOrder.lt_asymm

theorem Val.ltList_asymm : ∀ l m : List Val, Val.ltList l m = true → Val.ltList m l = false :=
  Val.strictWeakOrderList.lt_asymm

theorem Val.lt_ne (a b : Val) (h : Val.lt a b = true) : Val.eq a b = false :=
  Val.strictWeakOrder.lt_ne a b h

theorem Val.gt_ne (a b : Val) (h : Val.lt b a = true) : Val.eq a b = false :=
  Val.strictWeakOrder.gt_ne a b h

theorem Val.gt_eq_lt (a b : Val) : Val.gt a b = Val.lt b a := (Val.trichotomy a b).swap.1

theorem Val.ge_eq_le (a b : Val) : Val.ge a b = Val.le b a := (Val.trichotomy a b).swap.2

theorem Val.lt_trans : ∀ a b c : Val, Val.lt a b = true → Val.lt b c = true → Val.lt a c = true :=
  Val.strictWeakOrder.lt_trans

theorem Val.ltList_trans : ∀ l m n : List Val,
    Val.ltList l m = true → Val.ltList m n = true → Val.ltList l n = true :=
  Val.strictWeakOrderList.lt_trans

theorem Val.incomparable_iff_eq (a b : Val) :
    (Val.lt a b = false ∧ Val.lt b a = false) ↔ Val.eq a b = true :=
  Val.strictWeakOrder.incomparable_iff_eq a b

mutual
theorem Val.pyEq_refl : ∀ a : Val, Val.pyEq a a = true
  | .seq _ xs => by simp [Val.pyEq, Val.pyEqList_refl xs]
  | .none | .num .. | .bytes _ | .str _ | .date _ | .datetime _ | .time _ => by simp [Val.pyEq, Num.eq_refl]
theorem Val.pyEqList_refl : ∀ l : List Val, Val.pyEqList l l = true
  | [] => rfl
  | a :: as => by simp [Val.pyEqList, Val.pyEq_refl a, Val.pyEqList_refl as]
end

theorem getCell_append_left {a : Row} (b : Row) {j : Nat} (h : j < a.length) : getCell (a ++ b) j = getCell a j := by
  simp only [getCell, List.getD_eq_getElem?_getD, List.getElem?_append_left h]

theorem getCell_append_right (a b : Row) (j : Nat) : getCell (a ++ b) (a.length + j) = getCell b j := by
  simp only [getCell, List.getD_eq_getElem?_getD, List.getElem?_append_right (Nat.le_add_right ..),
    Nat.add_sub_cancel_left]

theorem map_getCell_range (r : Row) : (List.range r.length).map (getCell r) = r :=
  List.ext_getElem (by simp) fun i _ h => by simp [getCell, h]

theorem range_map_getCell_append (a b : Row) : (List.range a.length).map (getCell (a ++ b)) = a :=
  (List.map_congr_left fun _ hj => getCell_append_left b (List.mem_range.1 hj)).trans (map_getCell_range a)

theorem getKey_eq_of_cells (idx : List Nat) (r : Row) :
    getKey idx r = match idx.map (getCell r) with | [v] => v | vs => .seq false vs := by
  match idx with
  | [] | [_] | _ :: _ :: _ => rfl

end Petl
