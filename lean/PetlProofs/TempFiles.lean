/-
  The invariant `TFInv` of the temp-file model: every held file exists, and every existing file is held
  by someone.  Every transition that changes the state ends with the collection, which unlinks exactly
  the files nobody holds and changes no holder, so it restores `TFInv` from its first half alone
  (`gc_inv`).  What is left to show of a transition is that it creates no holder of a file that does not
  exist: `step_inv` is the shape all of them have before the collection, `next_inv` its instance for a
  `next` on a live iterator (which keeps the view reachable).
-/
import Petl.TempFiles

namespace Petl

theorem mem_holders (s : TFState) (c : Nat) :
    c ∈ s.holders ↔ (s.viewReachable = true ∧ c ∈ s.viewCache.getD []) ∨ ∃ it ∈ s.iters, c ∈ it.held := by
  rw [TFState.holders, ← List.flatMap_def]
  simp

theorem viewReachable_iff (s : TFState) :
    s.viewReachable = true ↔ s.userHoldsView = true ∨ ∃ it ∈ s.iters, it.alive = true := by
  simp only [TFState.viewReachable, Bool.or_eq_true, List.any_eq_true]

def TFInv (s : TFState) : Prop := (∀ c ∈ s.holders, c ∈ s.files) ∧ (∀ f ∈ s.files, f ∈ s.holders)

theorem gc_inv (s : TFState) (h : ∀ c ∈ s.holders, c ∈ s.files) : TFInv s.gc := by
  constructor
  · intro c (hc : c ∈ s.holders)
    exact List.mem_filter.2 ⟨h c hc, by simpa using hc⟩
  · intro f hf
    show f ∈ s.holders
    simpa using (List.mem_filter.1 hf).2

theorem step_inv {s s1 : TFState} (hinv : TFInv s)
    (hf : s.files ⊆ s1.files)
    (hit : ∀ it ∈ s1.iters, it ∈ s.iters ∨ it.held ⊆ s.holders ++ s1.files)
    (hr : s1.viewReachable = true → s.viewReachable = true)
    (hvc : s1.viewCache.getD [] ⊆ s.viewCache.getD [] ++ s1.files) : TFInv s1.gc := by
  refine gc_inv s1 fun c hc => ?_
  have old : c ∈ s.holders → c ∈ s1.files := fun h => hf (hinv.1 c h)
  rcases (mem_holders s1 c).1 hc with ⟨hr1, h⟩ | ⟨it, hit1, hch⟩
  · exact (List.mem_append.1 (hvc h)).elim (fun h => old ((mem_holders s c).2 (.inl ⟨hr hr1, h⟩))) id
  · rcases hit it hit1 with h | h
    · exact old ((mem_holders s c).2 (.inr ⟨it, h, hch⟩))
    · exact (List.mem_append.1 (h hch)).elim old id

theorem next_inv {s s1 : TFState} {i : Nat} {old X : TFIter} (hinv : TFInv s)
    (hold : s.iters[i]? = some old) (halive : old.alive = true)
    (hit : s1.iters = s.iters.set i X)
    (hX : X.held ⊆ old.held ++ s1.files)
    (hvc : s1.viewCache.getD [] ⊆ s.viewCache.getD [] ++ s1.files)
    (hf : s.files ⊆ s1.files) : TFInv s1.gc := by
  have hmem := List.mem_of_getElem? hold
  refine step_inv hinv hf (fun it h => ?_) (fun _ => (viewReachable_iff s).2 (.inr ⟨old, hmem, halive⟩)) hvc
  refine (List.mem_or_eq_of_mem_set (hit ▸ h)).imp id ?_
  rintro rfl c h
  exact List.mem_append.2 ((List.mem_append.1 (hX h)).imp (fun h => (mem_holders s c).2 (.inr ⟨old, hmem, h⟩)) id)

theorem TFInv_ite {c : Prop} [Decidable c] {a b : TFState × TFOut} (ha : TFInv a.1) (hb : TFInv b.1) :
    TFInv (if c then a else b).1 := by
  split <;> assumption

theorem tfStep_inv (p : TFParams) (s : TFState) (op : TFOp) (hinv : TFInv s) : TFInv (tfStep p s op).1 := by
  cases op with
  | new =>
    rw [tfStep]
    cases hu : s.userHoldsView with
    | false => exact hinv
    | true =>
      have hr : s.viewReachable = true := (viewReachable_iff s).2 (.inl hu)
      refine step_inv hinv (List.Subset.refl _) (fun it h => ?_) (fun _ => hr) (List.subset_append_left _ _)
      refine (List.mem_append.1 h).imp id fun h c hc => List.mem_append_left _ ((mem_holders s c).2 (.inl ⟨hr, ?_⟩))
      -- the new iterator holds nothing, or the files of the view's cache
      rw [List.mem_singleton.1 h] at hc
      split at hc
      · cases hc
      · split at hc
        · rename_i cs hcs; rw [hcs]; exact hc
        · cases hc
  | drop i =>
    refine step_inv hinv (List.Subset.refl _) (fun it h => ?_) ?_ (List.subset_append_left _ _)
    · exact (List.mem_or_eq_of_mem_set h).imp id (by rintro rfl; nofun)
    · rw [viewReachable_iff, viewReachable_iff]
      rintro (h | ⟨it, hit, ha⟩)
      · exact .inl h
      · rcases List.mem_or_eq_of_mem_set hit with h | rfl
        · exact .inr ⟨it, h, ha⟩
        · cases ha
  | dropView =>
    refine step_inv hinv (List.Subset.refl _) (fun _ h => .inl h) ?_ (List.subset_append_left _ _)
    rw [viewReachable_iff, viewReachable_iff]
    exact fun h => .inr (h.resolve_left nofun)
  | next i =>
    rw [tfStep]
    cases hi : s.iters[i]? with
    | none => exact hinv
    | some it =>
      -- every branch replaces iterator i, keeps, clears or sets the view's cache, and collects
      cases it with
      | dead => exact hinv
      | pending => refine next_inv hinv hi rfl rfl ?_ ?_ ?_ <;> simp [TFIter.held]
      | fromMem pos | running cs pos =>
        refine TFInv_ite ?_ ?_ <;>
          refine next_inv hinv hi rfl rfl ?_ ?_ ?_ <;> simp [TFIter.held]
      | fromFile cs pos =>
        refine TFInv_ite (TFInv_ite ?_ (TFInv_ite ?_ ?_)) ?_ <;>
          refine next_inv hinv hi rfl rfl ?_ ?_ ?_ <;> simp [TFIter.held]
      | afterHeader =>
        -- which files the chunks are does not matter
        generalize List.map (· + s.nextId) (List.range p.nchunks) = cs
        refine TFInv_ite (TFInv_ite ?_ (TFInv_ite ?_ ?_)) (TFInv_ite ?_ (TFInv_ite ?_ ?_)) <;>
          refine next_inv hinv hi rfl rfl ?_ ?_ ?_ <;> simp [TFIter.held]
        -- chunk files created: they become the view's cache if caching is on
        all_goals cases p.cache <;> simp

theorem tfRun_inv (p : TFParams) (ops : List TFOp) : TFInv (tfRun p ops).1 :=
  List.foldlRecOn ops _ (motive := fun acc : TFState × List TFOut => TFInv acc.1)
    ⟨by simp [TFState.holders, TFState.viewReachable], by simp⟩
    fun acc h op _ => tfStep_inv p acc.1 op h

end Petl
