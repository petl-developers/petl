/-
  That the iterators of a view are mutually independent is proved once, by a simulation by positions:
  an iterator "at k" behaves like a private cursor over `full` that has delivered `full.take k`.  A
  certificate (`IndepCert`) gives the invariant `SInv` of the shared state and the relation
  `R s it k`, "in shared state `s` the iterator state `it` is at k"; `StepOK` is all a machine's `step`
  has to satisfy.  The pure, fromdicts, sort and cache machines each get a certificate.
-/
import Petl.Views

namespace Petl

variable {σ ι : Type}

theorem Machine.apply_new (m : Machine σ ι) (s : RunState σ ι) :
    m.apply s .new = { shared := (m.newIter s.shared).1, iters := s.iters ++ [(m.newIter s.shared).2],
                       outs := s.outs ++ [[]] } := rfl

theorem Machine.apply_next_none (m : Machine σ ι) {s : RunState σ ι} {i : Nat} (h : s.iters[i]? = none) :
    m.apply s (.next i) = s := by
  rw [Machine.apply, h]

theorem Machine.apply_next_some (m : Machine σ ι) {s : RunState σ ι} {i : Nat} {it : ι} (h : s.iters[i]? = some it) :
    m.apply s (.next i) =
      { shared := (m.step s.shared it).1, iters := s.iters.set i (m.step s.shared it).2.1,
        outs := match (m.step s.shared it).2.2 with
          | some row => s.outs.set i (s.outs.getD i [] ++ [row])
          | none => s.outs } := by
  rw [Machine.apply, h]; rfl

/-- the frame condition: `R` mentions the shared state, so when a step of one iterator moves it the
    other iterators must still be where they were -/
def Ext (SInv : σ → Prop) (R : σ → ι → Nat → Prop) (s s' : σ) : Prop :=
  SInv s' ∧ ∀ it k, R s it k → R s' it k

theorem Ext.refl {SInv : σ → Prop} {R : σ → ι → Nat → Prop} {s : σ} (h : SInv s) : Ext SInv R s s :=
  ⟨h, fun _ _ h => h⟩

def StepOK (SInv : σ → Prop) (R : σ → ι → Nat → Prop) (full : List Row) (s : σ) (k : Nat) :
    σ × ι × Option Row → Prop
  | (s', it', some row) => Ext SInv R s s' ∧ R s' it' (k + 1) ∧ full[k]? = some row
  | (s', it', none) => Ext SInv R s s' ∧ R s' it' k ∧ full.length ≤ k

structure IndepCert (m : Machine σ ι) (full : List Row) where
  SInv : σ → Prop
  R : σ → ι → Nat → Prop
  init : SInv m.init
  new : ∀ s, SInv s → Ext SInv R s (m.newIter s).1 ∧ R (m.newIter s).1 (m.newIter s).2 0
  step : ∀ s it k, SInv s → R s it k → StepOK SInv R full s k (m.step s it)

variable {m : Machine σ ι} {full : List Row}

theorem IndepCert.step_out (c : IndepCert m full) {s : σ} {it : ι} {k : Nat} (hs : c.SInv s) (hR : c.R s it k) :
    (m.step s it).2.2 = full[k]? := by
  have h := c.step s it k hs hR
  rcases hst : m.step s it with ⟨s', it', _ | row⟩ <;> rw [hst] at h
  · exact (List.getElem?_eq_none h.2.2).symm
  · exact h.2.2.symm

def RunInv (c : IndepCert m full) (st : RunState σ ι) : Prop :=
  c.SInv st.shared ∧ st.outs.length = st.iters.length ∧
  ∀ (i : Nat) (it : ι), st.iters[i]? = some it → ∃ k, st.outs[i]? = some (full.take k) ∧ k ≤ full.length ∧ c.R st.shared it k

/-- one iterator moves on; the others keep their outputs and, by `Ext`, their positions -/
theorem RunInv.set {c : IndepCert m full} {st : RunState σ ι} (h : RunInv c st) {s' : σ} {i k' : Nat} {it' : ι}
    (hext : Ext c.SInv c.R st.shared s') (hi : i < st.iters.length) (hk' : k' ≤ full.length)
    (hR : c.R s' it' k') :
    RunInv c { shared := s', iters := st.iters.set i it', outs := st.outs.set i (full.take k') } := by
  obtain ⟨_, hlen, hit⟩ := h
  refine ⟨hext.1, by simp [hlen], fun j it hj => ?_⟩
  by_cases hji : i = j
  · subst hji
    rw [List.getElem?_set_self hi] at hj; cases hj
    exact ⟨k', List.getElem?_set_self (hlen ▸ hi), hk', hR⟩
  · rw [List.getElem?_set_ne hji] at hj ⊢
    obtain ⟨k, hk1, hk2, hk3⟩ := hit j it hj
    exact ⟨k, hk1, hk2, hext.2 it k hk3⟩

theorem runInv_apply (c : IndepCert m full) (st : RunState σ ι) (h : RunInv c st) (op : SOp) :
    RunInv c (m.apply st op) := by
  cases op with
  | new =>
    obtain ⟨hs, hlen, hit⟩ := h
    obtain ⟨⟨h1, hfr⟩, h2⟩ := c.new st.shared hs
    rw [Machine.apply_new]
    refine ⟨h1, by simp [hlen], fun i it hi => ?_⟩
    by_cases hlt : i < st.iters.length <;> simp only [List.getElem?_append, hlen, hlt, ↓reduceIte] at hi ⊢
    · obtain ⟨k, hk1, hk2, hk3⟩ := hit i it hi
      exact ⟨k, hk1, hk2, hfr it k hk3⟩
    · -- `hi : [new iterator][i - st.iters.length]? = some it`
      match i - st.iters.length, hi with
      | 0, rfl => exact ⟨0, rfl, Nat.zero_le _, h2⟩
  | next i =>
    cases hi : st.iters[i]? with
    | none => rwa [Machine.apply_next_none m hi]
    | some it =>
      obtain ⟨k, hk1, hk2, hk3⟩ := h.2.2 i it hi
      have hib : i < st.iters.length := (List.getElem?_eq_some_iff.1 hi).1
      have hst := c.step st.shared it k h.1 hk3
      rw [Machine.apply_next_some m hi]
      generalize m.step st.shared it = r at hst ⊢
      rcases r with ⟨s', it', _ | row⟩ <;> obtain ⟨hext, hR', hk⟩ := hst
      · -- nothing delivered: `outs` is left alone, and already holds `full.take k` at `i`
        have hout : st.outs.set i (full.take k) = st.outs := by
          obtain ⟨_, hk1⟩ := List.getElem?_eq_some_iff.1 hk1
          rw [← hk1, List.set_getElem_self]
        have := h.set hext hib hk2 hR'
        rwa [hout] at this
      · have hout : st.outs.getD i [] ++ [row] = full.take (k + 1) := by
          rw [List.getD_eq_getElem?_getD, hk1, List.take_add_one, hk]; rfl
        have := h.set hext hib (List.getElem?_eq_some_iff.1 hk).1 hR'
        rwa [← hout] at this

theorem runInv_run (c : IndepCert m full) (sched : List SOp) : RunInv c (m.run sched) :=
  List.foldlRecOn sched m.apply (motive := RunInv c) ⟨c.init, rfl, nofun⟩
    fun st h op _ => runInv_apply c st h op

theorem drop_nil_or_cons {α : Type} (l : List α) (k : Nat) :
    (l.drop k = [] ∧ l.length ≤ k) ∨ ∃ r, l.drop k = r :: l.drop (k + 1) ∧ l[k]? = some r := by
  by_cases h : k < l.length
  · exact .inr ⟨l[k], List.drop_eq_getElem_cons h, List.getElem?_eq_getElem h⟩
  · exact .inl ⟨List.drop_of_length_le (Nat.le_of_not_lt h), Nat.le_of_not_lt h⟩

def pureCert (rows : List Row) : IndepCert (pureMachine rows) rows where
  SInv := fun _ => True
  R := fun _ it k => it = rows.drop k
  init := trivial
  new := fun _ _ => ⟨.refl trivial, rfl⟩
  step := by
    rintro s _ k _ rfl
    rcases drop_nil_or_cons rows k with ⟨hd, hk⟩ | ⟨r, hd, hk⟩ <;> rw [hd]
    · exact ⟨.refl trivial, hd.symm, hk⟩
    · exact ⟨.refl trivial, rfl, hk⟩

def dictsGenCert (rows : List Row) : IndepCert (dictsGenMachine rows) rows where
  SInv := fun s => s.log ++ s.remaining = rows
  R := fun s pos k => pos = k ∧ k ≤ s.log.length
  init := rfl
  new := fun s h => ⟨.refl h, rfl, Nat.zero_le _⟩
  step := by
    -- `rows` becomes `log ++ rem`
    rintro ⟨rem, log⟩ pos _ rfl ⟨rfl, hk⟩
    simp only [dictsGenMachine]
    rcases Nat.lt_or_eq_of_le hk with hlt | rfl
    · rw [List.getElem?_eq_getElem hlt]
      exact ⟨.refl rfl, ⟨rfl, hlt⟩, by rw [List.getElem?_append_left hlt, List.getElem?_eq_getElem hlt]⟩
    · rw [List.getElem?_eq_none (Nat.le_refl _)]
      cases rem with
      | nil => exact ⟨.refl rfl, ⟨rfl, hk⟩, by simp⟩
      | cons r rest =>
        -- the generator's next row goes to the end of the log, where this iterator stands
        have hlen : (log ++ [r]).length = log.length + 1 := List.length_append
        exact ⟨⟨List.append_assoc .., fun _ _ h => ⟨h.1, hlen ▸ Nat.le_succ_of_le h.2⟩⟩,
          ⟨rfl, Nat.le_of_eq hlen.symm⟩, by simp⟩

def sortSInv (out : List Row) (s : Option (List Row)) : Prop := ∀ rows, s = some rows → rows = out

def sortIterAt (out : List Row) : SortIter → Nat → Prop
  | .pending, k => k = 0
  | .afterHeader, k => k = 1
  | .cursor rest, k => rest = out.drop k
  | .done, k => out.length ≤ k

def sortViewCert (cacheOn : Bool) (out : List Row) : IndepCert (sortViewMachine cacheOn out) out where
  SInv := sortSInv out
  R := fun _ => sortIterAt out
  init := nofun
  new := fun s hs =>
    match cacheOn, s, hs with
    | true, some _, hs => ⟨.refl hs, hs _ rfl⟩
    | true, none, hs | false, _, hs => ⟨.refl hs, rfl⟩
  step := by
    intro s it k hs hR
    -- `pending` and `afterHeader` deliver rows 0 and 1 as a cursor would; besides, the first
    -- clears the cache and the second fills it
    have hclear : Ext (sortSInv out) (fun _ => sortIterAt out) s none := ⟨nofun, fun _ _ h => h⟩
    have hfill : Ext (sortSInv out) (fun _ => sortIterAt out) s (if cacheOn then some out else s) := by
      refine ⟨fun rows h => ?_, fun _ _ h => h⟩
      split at h
      · cases h; rfl
      · exact hs rows h
    cases it with
    | pending =>
      cases hR
      cases out with
      | nil => exact ⟨hclear, Nat.le_refl _, Nat.le_refl _⟩
      | cons hdr rest => exact ⟨hclear, rfl, rfl⟩
    | afterHeader =>
      cases hR
      rcases drop_nil_or_cons out 1 with ⟨hd, hk⟩ | ⟨r, hd, hk⟩ <;> simp only [sortViewMachine, hd]
      · exact ⟨hfill, hk, hk⟩
      · exact ⟨hfill, rfl, hk⟩
    | cursor rest =>
      cases hR
      rcases drop_nil_or_cons out k with ⟨hd, hk⟩ | ⟨r, hd, hk⟩ <;> rw [hd]
      · exact ⟨.refl hs, hk, hk⟩
      · exact ⟨.refl hs, rfl, hk⟩
    | done => exact ⟨.refl hs, hR, hR⟩

def cacheSInv (inner : List Row) (s : CacheShared) : Prop :=
  s.cache = inner.take s.cache.length ∧ (s.complete = true → s.cache.length = inner.length)

/-- an iterator reading the cache is inside it; one reading the inner table is not ahead of the
    cache (so the guard lets it append the row the cache lacks) as long as the cache has room -/
def cacheIterAt (inner : List Row) (n : Option Nat) (s : CacheShared) : CacheIter → Nat → Prop
  | .fromCache p, k => p = k ∧ p ≤ s.cache.length
  | .fromInner i, k => i = k ∧ (cacheRoom n s = true → i ≤ s.cache.length)
  | .done, k => inner.length ≤ k

theorem cacheIterAt_mono {inner : List Row} {n : Option Nat} {s s' : CacheShared}
    (hlen : s.cache.length ≤ s'.cache.length) (it : CacheIter) (k : Nat)
    (h : cacheIterAt inner n s it k) : cacheIterAt inner n s' it k := by
  cases it with
  | fromCache p => exact ⟨h.1, Nat.le_trans h.2 hlen⟩
  | fromInner i =>
    -- room in the longer cache `s'` means room in `s`
    refine ⟨h.1, fun hroom => Nat.le_trans (h.2 ?_) hlen⟩
    cases n with
    | none => rfl
    | some lim =>
      simp only [cacheRoom, decide_eq_true_eq] at hroom ⊢
      exact Nat.lt_of_le_of_lt hlen hroom
  | done => exact h

theorem cacheStepInner_ok (inner : List Row) (n : Option Nat) (s : CacheShared) (i : Nat)
    (hs : cacheSInv inner s) (hi : cacheRoom n s = true → i ≤ s.cache.length) :
    StepOK (cacheSInv inner) (cacheIterAt inner n) inner s i (cacheStepInner true inner n s i) := by
  unfold cacheStepInner
  cases hrow : inner[i]? with
  | some row =>
    cases happ : cacheShouldAppend true n s i with
    | true =>
      obtain ⟨-, rfl⟩ : cacheRoom n s = true ∧ s.cache.length = i := by simpa [cacheShouldAppend] using happ
      refine ⟨⟨⟨?_, fun hc => ?_⟩, cacheIterAt_mono (by simp)⟩, ⟨rfl, fun _ => by simp⟩, hrow⟩
      · simp only [if_true, List.length_append, List.length_singleton]
        rw [List.take_add_one, ← hs.1, hrow]; rfl
      · exact absurd (hs.2 hc) (Nat.ne_of_lt (List.getElem?_eq_some_iff.1 hrow).1)
    | false =>
      -- no room, or the row is cached already: then the iterator is still behind the cache
      have hno : cacheRoom n s = true → ¬ s.cache.length = i := by simpa [cacheShouldAppend] using happ
      exact ⟨.refl hs, ⟨rfl, fun hroom => Nat.lt_of_le_of_ne (hi hroom) (Ne.symm (hno hroom))⟩, hrow⟩
  | none =>
    have hge : inner.length ≤ i := List.getElem?_eq_none_iff.1 hrow
    cases hroom : cacheRoom n s with
    | false => exact ⟨.refl hs, hge, hge⟩
    | true =>
      -- the inner table is exhausted and the cache has room: it is complete
      refine ⟨⟨⟨hs.1, fun _ => ?_⟩, fun _ _ h => h⟩, hge, hge⟩
      exact Nat.le_antisymm (hs.1 ▸ List.length_take_le' _ _) (Nat.le_trans hge (hi hroom))

def cacheCert (inner : List Row) (n : Option Nat) : IndepCert (cacheMachine true inner n) inner where
  SInv := cacheSInv inner
  R := cacheIterAt inner n
  init := ⟨rfl, nofun⟩
  new := fun s h => ⟨.refl h, rfl, Nat.zero_le _⟩
  step := by
    intro s it k hs hR
    cases it with
    | done => exact ⟨.refl hs, hR, hR⟩
    | fromInner i =>
      obtain ⟨rfl, hi⟩ := hR
      exact cacheStepInner_ok inner n s i hs hi
    | fromCache p =>
      obtain ⟨rfl, hp⟩ := hR
      simp only [cacheMachine]
      rcases Nat.lt_or_eq_of_le hp with hlt | rfl
      · rw [List.getElem?_eq_getElem hlt]
        refine ⟨.refl hs, ⟨rfl, hlt⟩, ?_⟩
        rw [← List.getElem?_take_of_lt hlt, ← hs.1, List.getElem?_eq_getElem hlt]
      · rw [List.getElem?_eq_none (Nat.le_refl _)]
        cases hc : s.complete with
        | true => exact ⟨.refl hs, Nat.le_of_eq (hs.2 hc).symm, Nat.le_of_eq (hs.2 hc).symm⟩
        | false => exact cacheStepInner_ok inner n s _ hs fun _ => Nat.le_refl _

end Petl
