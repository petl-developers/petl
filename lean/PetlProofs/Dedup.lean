/-
  The run detectors of duplicates / unique / distinct / conflicts (Petl/Dedup.lean) as functions of the
  adjacent key groups: the groups of size ≥ 2 (duplicates), of size 1 (unique), the group heads
  (distinct), the heads with the group sizes (distinct with count); conflicts yields a sublist of duplicates.
-/
import Petl.Dedup
import PetlProofs.Group

namespace Petl

def ofSize (P : Nat → Prop) [DecidablePred P] (gs : List (Val × List Row)) : List Row :=
  (gs.filter (fun g => decide (P g.2.length))).flatMap (·.2)
def heads (gs : List (Val × List Row)) : List Row := gs.filterMap (·.2.head?)

theorem ofSize_cons (P : Nat → Prop) [DecidablePred P] (g : Val × List Row) (gs) :
    ofSize P (g :: gs) = (if P g.2.length then g.2 else []) ++ ofSize P gs := by
  by_cases h : P g.2.length <;> simp [ofSize, h]

/-! ### each loop, started on `p` with `rows` to come, in terms of the run of `p` and the groups after it
    (`headRun`, `groups_cons_eq`); the cases of `headRun`: no row left, the next row `r` goes on with the run of `p`,
    `r` starts the next group -/

theorem dupAux_eq (key : Row → Val) (p : Row) (yielded : Bool) (rows : List Row) :
    dupAux key p yielded rows =
      (if yielded then (headRun key p rows).1 else
        if 2 ≤ (p :: (headRun key p rows).1).length then p :: (headRun key p rows).1 else [])
      ++ ofSize (2 ≤ ·) (headRun key p rows).2 := by
  fun_induction headRun key p rows generalizing yielded with
  | case1 => cases yielded <;> simp [dupAux, ofSize]
  | case2 p r rest he ih => cases yielded <;> simp [dupAux, ih, he]
  | case3 p r rest he ih => cases yielded <;> simp [dupAux, ih, he, ofSize_cons]

theorem dupRows_groups (key : Row → Val) (rows : List Row) : dupRows key rows = ofSize (2 ≤ ·) (groups key rows) := by
  cases rows with
  | nil => rfl
  | cons p rows => rw [groups_cons_eq, ofSize_cons, dupRows, dupAux_eq]; rfl

theorem uniqAux_eq (key : Row → Val) (p : Row) (prevNe : Bool) (rows : List Row) :
    uniqAux key p prevNe rows =
      (if prevNe && (headRun key p rows).1.isEmpty then [p] else []) ++ ofSize (· = 1) (headRun key p rows).2 := by
  fun_induction headRun key p rows generalizing prevNe with
  | case1 => cases prevNe <;> simp [uniqAux, ofSize]
  | case2 p r rest he ih => simp [uniqAux, ih, Val.eq_symm (key r) (key p), he]
  | case3 p r rest he ih =>
    simp only [uniqAux, ih, Val.eq_symm (key r) (key p), he, ofSize_cons]
    cases (headRun key r rest).1 <;> simp

theorem uniqRows_groups (key : Row → Val) (rows : List Row) : uniqRows key rows = ofSize (· = 1) (groups key rows) := by
  cases rows with
  | nil => rfl
  | cons p rows =>
    rw [groups_cons_eq, ofSize_cons, uniqRows, uniqAux_eq]
    cases (headRun key p rows).1 <;> simp

theorem distAux_eq (key : Row → Val) (p : Row) (rows : List Row) :
    distAux key (some (key p)) rows = heads (headRun key p rows).2 := by
  fun_induction headRun key p rows with
  | case1 => rfl
  | case2 p r rest he ih => simp [distAux, ih, Val.eq_symm (key r) (key p), he]
  | case3 p r rest he ih => simp [distAux, ih, Val.eq_symm (key r) (key p), he, heads]

theorem distinctRows_groups (key : Row → Val) (rows : List Row) : distinctRows key rows = heads (groups key rows) := by
  cases rows with
  | nil => rfl
  | cons p rows => simp [groups_cons_eq, distinctRows, distAux, distAux_eq, heads]

def counted (gs : List (Val × List Row)) : List Row :=
  gs.filterMap (fun g => g.2.head?.map (· ++ [intVal g.2.length]))

/-- `first` is the row the run started with, `n` the number of its rows seen up to and including `p` -/
theorem distCountAux_eq (key : Row → Val) (p first : Row) (n : Nat) (rows : List Row)
    (h : Val.eq (key first) (key p) = true) :
    distCountAux key first n rows =
      (first ++ [intVal (n + (headRun key p rows).1.length : Nat)]) :: counted (headRun key p rows).2 := by
  fun_induction headRun key p rows generalizing first n with
  | case1 => rfl
  | case2 p r rest he ih =>
    rw [distCountAux, if_pos (Val.eq_trans _ _ _ h he), ih first (n + 1) (Val.eq_trans _ _ _ h he),
      List.length_cons, Nat.add_right_comm, Nat.add_assoc]
  | case3 p r rest he ih =>
    simp [distCountAux, Val.eq_congr_left _ _ (key r) h, he, ih r 1 (Val.eq_refl _), counted, Nat.add_comm]

theorem distinctCountRows_groups (key : Row → Val) (rows : List Row) :
    distinctCountRows key rows = counted (groups key rows) := by
  cases rows with
  | nil => rfl
  | cons p rows =>
    rw [groups_cons_eq, distinctCountRows, distCountAux_eq key p p 1 rows (Val.eq_refl _)]
    simp [counted, Nat.add_comm]

theorem counted_dropLast (gs : List (Val × List Row)) : (counted gs).map List.dropLast = heads gs := by
  simp [counted, heads, List.map_filterMap, Function.comp_def]

def lastCount (r : Row) : Int := match r.getLast? with | some v => (asInt? v).getD 0 | none => 0

theorem lastCount_append (r : Row) (n : Int) : lastCount (r ++ [intVal n]) = n := by
  simp [lastCount, intVal, asInt?]

theorem counted_sum (gs : List (Val × List Row)) : ((counted gs).map lastCount).sum = (flattenG gs).length := by
  induction gs with
  | nil => rfl
  | cons g gs ih =>
    rw [flattenG_cons, List.length_append, Int.natCast_add, ← ih]
    cases h : g.2 <;> simp [counted, h, lastCount_append]

theorem dup_uniq_perm : ∀ (gs : List (Val × List Row)), (ofSize (2 ≤ ·) gs ++ ofSize (· = 1) gs).Perm (flattenG gs)
  | [] => .refl _
  | g :: gs => by
    -- a group goes to the left (size ≥ 2) or to the right (size 1), or is empty
    have hg : (if 2 ≤ g.2.length then g.2 else []) ++ (if g.2.length = 1 then g.2 else []) = g.2 := by
      rcases g.2 with _ | ⟨a, _ | ⟨b, t⟩⟩ <;> simp
    rw [ofSize_cons, ofSize_cons, flattenG_cons, List.append_assoc]
    refine ((List.perm_append_comm_assoc ..).append_left _).trans ?_
    rw [← List.append_assoc, hg]
    exact (dup_uniq_perm gs).append_left _

theorem dupRows_uniqRows_perm (key : Row → Val) (rows : List Row) :
    (dupRows key rows ++ uniqRows key rows).Perm rows := by
  have h := dup_uniq_perm (groups key rows)
  rwa [flattenG_groups, ← dupRows_groups, ← uniqRows_groups] at h

theorem dupAux_false_sublist (key : Row → Val) (p : Row) (rows : List Row) :
    List.Sublist (dupAux key p false rows) (p :: dupAux key p true rows) := by
  simp only [dupAux_eq, Bool.false_eq_true, if_false, if_true]
  split
  · exact List.Sublist.refl _
  · exact (List.sublist_append_right _ _).trans (List.sublist_cons_self _ _)

theorem confAux_sublist (key : Row → Val) (sel : Nat → Bool) (missing : Val) (p : Row) (yielded : Bool)
    (rows : List Row) : List.Sublist (confAux key sel missing p yielded rows) (dupAux key p yielded rows) := by
  fun_induction confAux key sel missing p yielded rows with
  | case1 => exact .refl _
  | case2 p yielded r rest he hc ih => rw [dupAux, if_pos he]; exact (ih.cons_cons r).append_left _
  | case3 p yielded r rest he hc ih =>
    -- no conflict: `conflicts` keeps its flag where `duplicates` yields `p` (if need be) and `r`
    rw [dupAux, if_pos he]
    refine ih.trans (List.sublist_append_of_sublist_right ?_)
    cases yielded
    · exact dupAux_false_sublist key r rest
    · exact List.sublist_cons_self _ _
  | case4 p yielded r rest he ih => rw [dupAux, if_neg he]; exact ih

theorem isUniqueAux_iff (seen vs : List Val) :
    isUniqueAux seen vs = true ↔
      (vs.Pairwise (fun a b => Val.eq a b = false) ∧ ∀ v ∈ vs, ∀ s ∈ seen, Val.eq s v = false) := by
  fun_induction isUniqueAux seen vs with
  | case1 => simp
  | case2 seen v vs h =>
    -- `v` was seen: both sides are false
    obtain ⟨s, hs, hv⟩ := List.any_eq_true.1 h
    exact iff_of_false Bool.false_ne_true fun hc => Bool.false_ne_true ((hc.2 v List.mem_cons_self s hs).symm.trans hv)
  | case3 seen v vs h ih =>
    -- `v` is new: the induction hypothesis for `v :: seen`, with the clauses about `v` regrouped
    simp only [List.any_eq_true, not_exists, not_and, Bool.not_eq_true] at h
    simp only [ih, List.pairwise_cons, List.mem_cons, forall_eq_or_imp, forall_and]
    exact ⟨fun ⟨hp, ha, hc⟩ => ⟨⟨ha, hp⟩, h, hc⟩, fun ⟨⟨ha, hp⟩, _, hc⟩ => ⟨hp, ha, hc⟩⟩

end Petl
