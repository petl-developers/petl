/-
  C03, the per-function obligations: every function body of the table regenerated from petl's source
  (Petl/Gen/HeapProgs.lean, translators/heap_ir.py) is accepted by the ownership analysis, or is a
  hand-reviewed body (PetlProofs/HeapReviewed.lean).  The table is finite, so this is decided by one
  evaluation in the kernel.
-/
import PetlProofs.HeapReviewed
import PetlProofs.HeapFast
import Petl.Gen.HeapProgs

namespace Petl.Heap
open Petl.Gen

/-- What the kernel evaluates for each body, cheapest test first: the positional analysis (`psafe`, several times
    cheaper for the kernel than `safe`); for what it rejects the reviewed list (`isReviewed` compares strings, which
    the kernel does very slowly); `safe` itself last, so that nothing `safe` accepts is ever turned down. -/
def tableOK (c : List (String × Prog)) : Bool := c.all fun f => psafe f.2 || isReviewed f || safe f.2

theorem tableOK_sound {c : List (String × Prog)} (h : tableOK c = true) :
    ∀ f ∈ c, isReviewed f = true ∨ safe f.2 = true := fun f hf => by
  rcases Bool.or_eq_true_iff.1 (List.all_eq_true.1 h f hf) with h | h
  · exact (Bool.or_eq_true_iff.1 h).elim (fun h => .inr (psafe_sound f.2 h)) .inl
  · exact .inr h

theorem heapProgs_ok : tableOK heapProgs = true := by decide +kernel

end Petl.Heap
