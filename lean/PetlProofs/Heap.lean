/-
  The ownership analysis of Petl/Heap.lean read as claims about a concrete state: an abstract value is a `Fact` about
  the object its variable refers to, and an abstract environment `Models` a state when all its facts hold.  First, the
  analysis' own operations (`le`, `join`, `meet`, `sub`, `loopInv`) only pass from facts to facts they imply; then what
  each state change of `Exec` does to `Models`.  `WF` (every owned object lies below `next`) is what lets an ownership
  claim be weakened to a "maybe", and what makes a freshly allocated object none of those the facts speak of.
-/
import Petl.Heap

namespace Petl.Heap

/-- what an abstract value claims about the object a variable refers to -/
def Fact (s : HState) (x : Nat) : AVal → Prop
  | .own n => s.env x ∈ s.owned ∧ s.tag (s.env x) = n
  | .ext => s.env x ∉ s.owned ∧ s.env x < s.next
  | .maybe n => (s.env x ∈ s.owned → s.tag (s.env x) = n) ∧ s.env x < s.next

/-- the analysis facts hold of a concrete state -/
def Models (s : HState) (a : Abs) : Prop := ∀ x v, (x, v) ∈ a → Fact s x v

def WF (s : HState) : Prop := ∀ o ∈ s.owned, o < s.next

variable {s : HState} {a b : Abs} {x y : Nat} {v w u : AVal}

theorem okLog_append (own : List Nat) (e1 e2 : List Ev) :
    okLog own (e1 ++ e2) = (okLog own e1 && okLog (ownedAfter own e1) e2) := by
  fun_induction okLog own e1 with
  | case1 => rfl
  | case2 _ _ _ ih | case3 _ _ _ ih => exact ih
  | case4 _ _ _ ih => rw [List.cons_append, okLog, ih, Bool.and_assoc]; rfl

theorem ownedAfter_append (own : List Nat) (e1 e2 : List Ev) :
    ownedAfter own (e1 ++ e2) = ownedAfter (ownedAfter own e1) e2 := by
  fun_induction ownedAfter own e1 with
  | case1 => rfl
  | case2 _ _ _ ih | case3 _ _ _ ih | case4 _ _ _ ih => exact ih

theorem get_mem (h : a.get x = some v) : (x, v) ∈ a := by
  obtain ⟨⟨y, w⟩, hf, hv⟩ := Option.map_eq_some_iff.mp h
  have hy : y = x := by simpa using List.find?_some hf
  cases hv; cases hy
  exact List.mem_of_find?_eq_some hf

theorem mem_drop : (y, v) ∈ a.drop x ↔ (y, v) ∈ a ∧ y ≠ x := by
  simp [Abs.drop]

theorem fact_le (wf : WF s) : w.le v = true → Fact s x w → Fact s x v := by
  fun_cases AVal.le w v
  · intro h hw; cases beq_iff_eq.mp h; exact ⟨fun _ => hw.2, wf _ hw.1⟩
  · intro _ hw; exact ⟨fun hc => absurd hc hw.1, hw.2⟩
  · intro h hw; exact beq_iff_eq.mp h ▸ hw

theorem join_le : v.join w = some u → v.le u = true ∧ w.le u = true := by
  fun_cases AVal.join v w <;> rintro ⟨⟩
  all_goals simp [AVal.le]

theorem models_sub (wf : WF s) (h : a.sub b = true) (hb : Models s b) : Models s a := by
  intro x v hm
  have h1 := List.all_eq_true.mp h (x, v) hm
  split at h1
  · exact fact_le wf h1 (hb x _ (get_mem ‹_›))
  · cases h1

theorem mem_meet : (x, u) ∈ a.meet b ↔ ∃ v w, (x, v) ∈ a ∧ b.get x = some w ∧ v.join w = some u := by
  constructor
  · intro h
    obtain ⟨⟨y, v⟩, hf, hfm⟩ := List.mem_filterMap.mp h
    split at hfm
    · obtain ⟨u', hj, hu⟩ := Option.map_eq_some_iff.mp hfm
      cases hu
      exact ⟨v, _, hf, ‹_›, hj⟩
    · cases hfm
  · rintro ⟨v, w, hv, hw, hj⟩
    exact List.mem_filterMap.2 ⟨(x, v), hv, by simp [hw, hj]⟩

theorem models_meet_left (wf : WF s) (ha : Models s a) : Models s (a.meet b) := by
  intro x u hm
  obtain ⟨v, w, hv, _, hj⟩ := mem_meet.1 hm
  exact fact_le wf (join_le hj).1 (ha x v hv)

theorem models_meet_right (wf : WF s) (hb : Models s b) : Models s (a.meet b) := by
  intro x u hm
  obtain ⟨v, w, _, hw, hj⟩ := mem_meet.1 hm
  exact fact_le wf (join_le hj).2 (hb x w (get_mem hw))

theorem loopInv_spec {f : Abs → Option Abs} {fuel : Nat} {a inv : Abs} (h : loopInv f fuel a = some inv) :
    (∀ s, WF s → Models s a → Models s inv) ∧ ∃ out, f inv = some out ∧ inv.sub out = true := by
  fun_induction loopInv f fuel a with
  | case1 | case2 => cases h
  | case3 _ a out hf hs => cases h; exact ⟨fun _ _ m => m, out, hf, hs⟩
  | case4 _ a out _ _ ih =>
    have ⟨h1, h2⟩ := ih h
    exact ⟨fun s wf m => h1 s wf (models_meet_left wf m), h2⟩

/-! ### `Models` under each kind of step

`Fact s x v` reads the state only at `s.env x`, `s.owned`, `s.tag`, `s.next`; each lemma below says what one kind
of state change (rebinding a variable, allocating, releasing) does to a whole abstract environment. -/

/-- the states `Exec` steps to (`Exec.bindFresh` goes to `(s.alloc n).rebind x s.next`) -/
abbrev HState.rebind (s : HState) (x o : Nat) : HState := { s with env := upd s.env x o }
abbrev HState.alloc (s : HState) (n : Nat) : HState :=
  { s with tag := fun o => if o = s.next then n else s.tag o, owned := s.next :: s.owned,
           next := s.next + 1, log := s.log ++ [.alloc s.next] }
abbrev HState.release (s : HState) (x : Nat) : HState :=
  { s with owned := s.owned.filter (· ≠ s.env x), log := s.log ++ [.release (s.env x)] }

theorem models_nil (s : HState) : Models s [] := fun _ _ h => nomatch h

theorem models_set (hx : Fact s x v) (m : Models s (a.drop x)) : Models s (a.set x v) := by
  intro y w hm
  rcases List.mem_cons.mp hm with h | h
  · cases h; exact hx
  · exact m y w h

theorem upd_self (env : Nat → Nat) (x o : Nat) : upd env x o x = o := if_pos rfl

theorem fact_rebind {z o : Nat} (he : (s.rebind x o).env z = s.env y) (h : Fact s y v) : Fact (s.rebind x o) z v := by
  have he : upd s.env x o z = s.env y := he
  cases v <;> simp only [Fact, he] <;> exact h

theorem models_rebind (x o : Nat) (m : Models s a) : Models (s.rebind x o) (a.drop x) := by
  intro y v hm
  have ⟨h1, h2⟩ := mem_drop.1 hm
  exact fact_rebind (if_neg h2) (m y v h1)

theorem fact_lt (wf : WF s) (h : Fact s x v) : s.env x < s.next := by
  cases v
  · exact wf _ h.1
  · exact h.2
  · exact h.2

/-- the new object is none of those the facts speak of -/
theorem models_alloc (n : Nat) (wf : WF s) (m : Models s a) : Models (s.alloc n) a := by
  intro y v hm
  have hf := m y v hm
  have hlt := fact_lt wf hf
  have hne : s.env y ≠ s.next := Nat.ne_of_lt hlt
  cases v <;> simp only [Fact, List.mem_cons, hne, false_or, if_false] at hf ⊢
  · exact hf
  · exact ⟨hf.1, Nat.lt_succ_of_lt hlt⟩
  · exact ⟨hf.1, Nat.lt_succ_of_lt hlt⟩

theorem wf_alloc (n : Nat) (wf : WF s) : WF (s.alloc n) :=
  List.forall_mem_cons.2 ⟨Nat.lt_succ_self _, fun o ho => Nat.lt_succ_of_lt (wf o ho)⟩

theorem wf_release (x : Nat) (wf : WF s) : WF (s.release x) :=
  fun p hp => wf p (List.mem_filter.mp hp).1

theorem fact_release (hf : Fact s y v) (hv : ∀ k, v = .own k → s.env y ≠ s.env x) : Fact (s.release x) y v := by
  cases v with
  | own k => exact ⟨List.mem_filter.mpr ⟨hf.1, decide_eq_true (hv k rfl)⟩, hf.2⟩
  | ext | maybe k => exact ⟨fun hc => hf.1 (List.mem_filter.mp hc).1, hf.2⟩

theorem fact_release_own {k : Nat} (wf : WF s) (hf : Fact s y (.own k)) : Fact (s.release x) y (.maybe k) :=
  fact_release (fact_le wf (w := .own k) (v := .maybe k) (beq_self_eq_true k) hf) nofun

/-- the released object is foreign: no ownership claim is about it -/
theorem models_release_ext (m : Models s a) (hx : s.env x ∉ s.owned) : Models (s.release x) a := by
  intro y v hm
  refine fact_release (m y v hm) ?_
  rintro k rfl hc
  exact hx (hc ▸ (m y _ hm).1)

/-- the released object, if ours, comes from site `n`: claims about other sites are about other objects -/
theorem models_release_dropSite {n : Nat} (wf : WF s) (m : Models s a)
    (hx : s.env x ∈ s.owned → s.tag (s.env x) = n) : Models (s.release x) (a.dropSite n) := by
  intro z v hm
  obtain ⟨⟨y, w⟩, hf, hfe⟩ := List.mem_map.mp hm
  have hw := m y w hf
  split at hfe <;> cases hfe
  next hown => cases hown; exact fact_release_own wf hw
  next hown =>
    refine fact_release hw ?_
    rintro k rfl hc
    exact hown (by rw [← hw.2, hc, hx (hc ▸ hw.1)])

/-- nothing is known about the released object: every ownership claim is weakened -/
theorem models_release_dropOwn (wf : WF s) (m : Models s a) : Models (s.release x) a.dropOwn := by
  intro z v hm
  obtain ⟨⟨y, w⟩, hf, hfe⟩ := List.mem_map.mp hm
  have hw := m y w hf
  cases w <;> cases hfe
  · exact fact_release_own wf hw
  · exact fact_release hw nofun
  · exact fact_release hw nofun

end Petl.Heap
