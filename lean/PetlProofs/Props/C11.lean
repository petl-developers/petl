/-
  C11 — execution-strategy arguments never change results.

  (a) every sort-backed operator's model takes its buffer size only through `sortRows`, which is
      independent of it (C05) — stated per operator family;
  (b) presorted=True on input already sorted by the key: the skipped sort would have been the identity;
  (c) the cache clause over histories of (edit source, iterate);
  (d) the wiring table `Gen.sortWiring`, regenerated from petl/transform/*.py on every run: every strategy
      argument of every sort-backed operator is forwarded to every sort it creates.
-/
import Petl.SortCache
import Petl.Gen.SortWiring
import Petl.Dedup
import Petl.Join
import PetlProofs.Sort
import Petl.SetOps
import Petl.Reshape

namespace Petl.C11

theorem sortRows_bs_irrelevant (idx : List Nat) (rev : Bool) (b : Nat) (hb : 1 ≤ b) (rows : List Row) :
    sortRows (rowLe idx rev) (some b) rows = sortRows (rowLe idx rev) none rows :=
  sortRows_eq_mergeSort (rowLe_totalPre idx rev) b hb rows

theorem sortedGroups_bs_irrelevant (kidx : List Nat) (b : Nat) (hb : 1 ≤ b) (rows : List Row) :
    sortedGroups kidx (some b) rows = sortedGroups kidx none rows :=
  congrArg (groups (getKey kidx)) (sortRows_bs_irrelevant kidx false b hb rows)

theorem join_strategy_irrelevant (kind : JoinKind) (m : Val) (lp rp : Option (List Nat)) (lk rk : List FSpec)
    (b : Nat) (hb : 1 ≤ b) (L R : Table) :
    joinView kind m lp rp lk rk (some b) L R = joinView kind m lp rp lk rk none L R := by
  unfold joinView; simp only [sortRows_bs_irrelevant _ false b hb]

theorem setop_strategy_irrelevant (op : SetOp) (strict : Bool) (b : Nat) (hb : 1 ≤ b) (A B : Table) :
    setOpView op strict (some b) A B = setOpView op strict none A B := by
  unfold setOpView; simp only [sortAll, sortRows_bs_irrelevant _ false b hb]

theorem dedup_strategy_irrelevant (op : DedupOp) (key : Option (List FSpec)) (b : Nat) (hb : 1 ≤ b) (t : Table) :
    dedupView op key (some b) t = dedupView op key none t := by
  unfold dedupView; simp only [sortRows_bs_irrelevant _ false b hb]

theorem grouping_strategy_irrelevant (kidx : List Nat) (b : Nat) (hb : 1 ≤ b) (rows : List Row)
    (keyHdr : Row) (field : Val) (vidx : Option (List Nat)) (f : AggFn) (hdr : Row) (last : Bool)
    (outHdr : Row) (vf : List Nat) (missing : Val) (vi wi : Nat) (vars : List Val) :
    simpleAggregate keyHdr field kidx vidx f (some b) rows = simpleAggregate keyHdr field kidx vidx f none rows ∧
    groupSelect last hdr kidx (some b) rows = groupSelect last hdr kidx none rows ∧
    foldAdd kidx vf (some b) rows = foldAdd kidx vf none rows ∧
    mergeDuplicates outHdr kidx vf missing (some b) rows = mergeDuplicates outHdr kidx vf missing none rows ∧
    recastRows kidx vi wi vars missing (some b) rows = recastRows kidx vi wi vars missing none rows := by
  simp only [simpleAggregate, groupSelect, foldAdd, mergeDuplicates, recastRows,
    sortedGroups_bs_irrelevant kidx b hb rows, and_self]

/-- presorted=True: if the input is already sorted by the key, the sort that is skipped would have
    returned the input unchanged — so every operator sees the same rows either way -/
theorem presorted_on_sorted (idx : List Nat) (rev : Bool) (bs : Option Nat) (hbs : ∀ b, bs = some b → 1 ≤ b)
    (rows : List Row) (hs : SortedL (rowLe idx rev) rows) : sortRows (rowLe idx rev) bs rows = rows :=
  (sortRows_eq (rowLe_totalPre idx rev) bs hbs rows).trans (List.mergeSort_of_pairwise hs)

/-- cache=False: every pass re-reads the source and reflects its current contents -/
theorem cache_false_fresh (sortOf : List Row → List Row) (s : SCState) :
    (scStep false sortOf s .pass).2.1 = some (sortOf s.src) ∧ (scStep false sortOf s .pass).2.2 = s.src.length :=
  ⟨rfl, rfl⟩

/-- cache=True: a pass after a completed one yields that pass's rows again and reads nothing —
    whatever edits happened in between -/
theorem cache_true_replay (sortOf : List Row → List Row) (s : SCState) (edits : List (List Row)) :
    let s1 := (scStep true sortOf s .pass).1
    let out1 := (scStep true sortOf s .pass).2.1
    let s2 := (edits.map SCOp.edit).foldl (fun st op => (scStep true sortOf st op).1) s1
    (scStep true sortOf s2 .pass).2.1 = out1 ∧ (scStep true sortOf s2 .pass).2.2 = 0 := by
  intro s1 out1 s2
  -- edits leave the cache alone
  have hc (es : List (List Row)) (st : SCState) :
      ((es.map SCOp.edit).foldl (fun st op => (scStep true sortOf st op).1) st).cache = st.cache := by
    induction es generalizing st with
    | nil => rfl
    | cons e es ih => exact ih _
  -- and the first pass has left its output there, whether it found the cache filled or empty
  obtain ⟨o, h1, ho⟩ : ∃ o, s1.cache = some o ∧ out1 = some o := by
    obtain ⟨src, _ | c⟩ := s <;> exact ⟨_, rfl, rfl⟩
  have h2 : s2.cache = some o := (hc edits s1).trans h1
  simp [scStep, h2, ho]

/-- the first pass (and, with cache=False, every pass) is the sort of the current source -/
theorem first_pass_is_sort (cacheOn : Bool) (sortOf : List Row → List Row) (src : List Row) :
    (scStep cacheOn sortOf { src := src, cache := none } .pass).2.1 = some (sortOf src) := by
  cases cacheOn <;> rfl

/-- every strategy argument accepted by a sort-backed operator is forwarded to every sort-backed
    callee it creates (checked over the whole generated table) -/
theorem all_strategy_arguments_forwarded : ∀ w ∈ Gen.sortWiring, w.forwarded = true := by
  decide +kernel

/-! non-vacuity -/
example : Gen.sortWiring ≠ [] := by decide +kernel

end Petl.C11
