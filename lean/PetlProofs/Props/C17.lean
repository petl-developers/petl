/-
  C17 — database loads round-trip and are all-or-nothing when the source fails.
-/
import Petl.Db

namespace Petl.C17

/-- what a commit would make visible -/
def view (d : Db) : List Row := d.pending.getD d.committed

theorem run_append (d : Db) (a b : List DbOp) : d.run (a ++ b) = (d.run a).run b :=
  List.foldl_append

theorem run_inserts (d : Db) (rows : List Row) :
    (d.run (rows.map DbOp.insert)).committed = d.committed ∧ view (d.run (rows.map DbOp.insert)) = view d ++ rows := by
  induction rows generalizing d with
  | nil => exact ⟨rfl, (List.append_nil _).symm⟩
  | cons r rs ih =>
    obtain ⟨h1, h2⟩ := ih (d.apply (.insert r))
    exact ⟨h1, h2.trans (List.append_assoc _ [r] rs)⟩

theorem committed_close (d : Db) (ops : List DbOp) (closes : Bool) :
    (d.run (ops ++ if closes then [DbOp.close] else [])).committed = (d.run ops).committed := by
  rw [run_append]; cases closes <;> rfl

/-- **One transaction.**  What a fresh connection sees after a load, for todb and appenddb, either
    value of the commit flag, every kind of handle, and a source that fails nowhere or anywhere:
    the rows written (after the previous contents, for appenddb) if the source did not fail and
    the load commits; otherwise the previous contents. -/
theorem load_committed (prior rows : List Row) (truncate commit closes : Bool) (failAt : Option Nat) :
    (({ committed := prior, pending := none } : Db).run (loadOps truncate commit closes rows failAt)).committed =
      if failAt = none ∧ commit = true then (if truncate then [] else prior) ++ rows else prior := by
  have hpre : ∀ d : Db, (d.run (if truncate then [DbOp.delete] else [])).committed = d.committed := by
    intro d; cases truncate <;> rfl
  match failAt with
  | some 0 => exact committed_close _ [] closes
  | some (k + 1) =>
    simp only [loadOps, reduceCtorEq, false_and, if_false]
    rw [committed_close, run_append, (run_inserts _ _).1, hpre]
  | none =>
    simp only [loadOps, true_and]
    rw [committed_close, run_append, run_append]
    cases commit
    · exact ((run_inserts _ _).1.trans (hpre _))
    · exact ((run_inserts _ _).2.trans (by cases truncate <;> rfl))

/-- todb followed by fromdb returns exactly the rows written (todb replaces the previous contents) -/
theorem todb_roundtrip (prior rows : List Row) (closes : Bool) :
    (({ committed := prior, pending := none } : Db).run (loadOps true true closes rows none)).committed = rows :=
  load_committed prior rows true true closes none

/-- appenddb extends the previous contents -/
theorem appenddb_extends (prior rows : List Row) (closes : Bool) :
    (({ committed := prior, pending := none } : Db).run (loadOps false true closes rows none)).committed = prior ++ rows :=
  load_committed prior rows false true closes none

/-- all-or-nothing: if the source fails at the header, at any data row or at exhaustion, a fresh
    connection still sees the previous contents — for todb and appenddb, every kind of handle and
    either value of the commit flag -/
theorem load_all_or_nothing (prior rows : List Row) (truncate commit closes : Bool) (j : Nat) :
    (({ committed := prior, pending := none } : Db).run (loadOps truncate commit closes rows (some j))).committed = prior :=
  load_committed prior rows truncate commit closes (some j)

/-- with commit=False nothing becomes visible either -/
theorem no_commit_nothing_visible (prior rows : List Row) (truncate closes : Bool) :
    (({ committed := prior, pending := none } : Db).run (loadOps truncate false closes rows none)).committed = prior :=
  load_committed prior rows truncate false closes none

/-- when petl opened the connection itself (file name), no transaction survives the call -/
theorem filename_handle_closed (prior rows : List Row) (truncate commit : Bool) (failAt : Option Nat) :
    (({ committed := prior, pending := none } : Db).run (loadOps truncate commit true rows failAt)).pending = none := by
  -- every branch of `loadOps` ends with the close
  have hclose : ∀ (d : Db) (ops : List DbOp), (d.run (ops ++ [DbOp.close])).pending = none := by
    intro d ops; rw [run_append]; rfl
  match failAt with
  | some 0 => rfl
  | some (k + 1) | none => exact hclose _ _

/-! non-vacuity: a load that fails after two rows into a table that had one row -/
example : (({ committed := [[.num .int (.fin 9)]], pending := none } : Db).run
    (loadOps true true false [[.num .int (.fin 1)], [.num .int (.fin 2)], [.num .int (.fin 3)]] (some 3))).committed.length = 1 ∧
  (({ committed := [[.num .int (.fin 9)]], pending := none } : Db).run
    (loadOps true true false [[.num .int (.fin 1)], [.num .int (.fin 2)], [.num .int (.fin 3)]] (some 3))).pending.map List.length = some 2 := by
  decide

end Petl.C17
