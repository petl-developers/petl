/-
  C12 — row- and field-level transforms touch only what they are asked to.

  The models in Petl/Basics.lean are cell-exact executable specifications (tied to the code by
  exact correspondence); the theorems below are the frame conditions that follow from them:
  one output row per input row, untouched cells carried over in order, padding/trimming.
-/
import Petl.Basics
import PetlProofs.Order
import PetlProofs.Props.C19

namespace Petl.C12

theorem pyInsert_spec (n : Nat) (i : Int) :
    pyInsertPos n i ≤ n ∧
    (0 ≤ i → i ≤ n → pyInsertPos n i = i.toNat) ∧ ((n : Int) < i → pyInsertPos n i = n) ∧
    (i < 0 → -(n : Int) ≤ i → (pyInsertPos n i : Int) = n + i) ∧ (i < -(n : Int) → pyInsertPos n i = 0) := by
  unfold pyInsertPos
  split
  · split <;> omega
  · omega

def insertPos {α : Type} (l : List α) (i : Option Int) : Nat :=
  match i with | none => l.length | some i => pyInsertPos l.length i

theorem insertPos_le {α : Type} (l : List α) (i : Option Int) : insertPos l i ≤ l.length := by
  cases i with
  | none => exact Nat.le_refl _
  | some i => exact (pyInsert_spec l.length i).1

theorem insertIdx_eq_take_drop {α : Type} (x : α) : ∀ (l : List α) (k : Nat), k ≤ l.length →
    l.insertIdx k x = l.take k ++ x :: l.drop k
  | _, 0, _ => rfl
  | a :: l, k + 1, h => congrArg (a :: ·) (insertIdx_eq_take_drop x l k (Nat.le_of_succ_le_succ h))

/-- Python's `list.insert` is `List.insertIdx` at the clamped position, for any index — negative or out of range
    included; so the old cells stay, in order (`List.eraseIdx_insertIdx_self`) -/
theorem pyInsert_eq_insertIdx {α : Type} (l : List α) (i : Option Int) (x : α) :
    pyInsert l i x = l.insertIdx (insertPos l i) x :=
  (insertIdx_eq_take_drop x l _ (insertPos_le l i)).symm

theorem pyInsert_perm {α : Type} (l : List α) (i : Option Int) (x : α) : (pyInsert l i x).Perm (x :: l) :=
  pyInsert_eq_insertIdx l i x ▸ List.perm_insertIdx x l (insertPos_le l i)

/-- addfield / addfields / addcolumn: the row is squared up to the header's width, then the new cell
    is inserted; all other cells are the (padded/trimmed) old ones in order -/
theorem addfield_frame (w : Nat) (missing : Val) (value : FieldVal) (index : Option Int) (r : Row) :
    let r' := squareRow w missing r
    let out := pyInsert r' index (value.eval r')
    out.length = r'.length + 1 ∧ out.eraseIdx (insertPos r' index) = r' ∧
    out[insertPos r' index]? = some (value.eval r') := by
  intro r' out
  have hle := insertPos_le r' index
  rw [show out = _ from pyInsert_eq_insertIdx ..]
  exact ⟨List.length_insertIdx_of_le_length hle _, List.eraseIdx_insertIdx_self _,
    List.getElem?_insertIdx_self.trans (if_pos hle)⟩

theorem addcolumn_frame (index : Option Int) (r : Row) (v : Val) :
    (pyInsert r index v).eraseIdx (insertPos r index) = r :=
  pyInsert_eq_insertIdx r index v ▸ List.eraseIdx_insertIdx_self v

theorem squareRow_eq (w : Nat) (missing : Val) (r : Row) :
    squareRow w missing r = r.take w ++ List.replicate (w - r.length) missing := by
  rw [squareRow, List.take_append, List.take_replicate, Nat.min_eq_left (Nat.sub_le ..)]

theorem squareRow_spec (w : Nat) (missing : Val) (r : Row) :
    (squareRow w missing r).length = w ∧
    ∀ j, j < w → (squareRow w missing r)[j]? = some (r.getD j missing) := by
  refine ⟨by simp [squareRow], fun j hj => ?_⟩
  rw [squareRow, List.getElem?_take_of_lt hj, List.getElem?_append, List.getD_eq_getElem?_getD]
  split
  · rw [List.getElem?_eq_getElem ‹_›]; rfl
  · rw [List.getElem?_replicate_of_lt (Nat.sub_lt_of_lt hj), List.getElem?_eq_none (Nat.le_of_not_lt ‹_›)]; rfl

/-- stack (default trim and pad): short rows are padded with `missing`, long rows trimmed,
    never dropped -/
theorem stack_pads_trims (w : Nat) (missing : Val) (r : Row) :
    stackRow w missing true true r = squareRow w missing r ∧
    (stackRow w missing false false r = r) ∧ (stackRow w missing true false r = r.take w) := by
  refine ⟨?_, rfl, rfl⟩
  rw [squareRow_eq]
  simp only [stackRow, Bool.true_and, if_true, List.length_take]
  by_cases h : r.length < w
  · simp [Nat.min_eq_right (Nat.le_of_lt h), h]
  · simp [Nat.min_eq_left (Nat.le_of_not_lt h), Nat.sub_eq_zero_of_le (Nat.le_of_not_lt h)]

theorem stackView_rows (missing : Val) (t : Table) :
    (stackView missing true true [t]).rows.drop 1 = (t.drop 1).map (squareRow (t.headD []).length missing) := by
  simp only [stackView, List.map_cons, List.map_nil, List.flatten_cons, List.flatten_nil, List.append_nil]
  apply List.map_congr_left
  intro r _
  exact (stack_pads_trims _ missing r).1

/-- annex of one table squares its rows up (each table of an annex is padded/trimmed to its own header) -/
theorem annex_pads (missing : Val) (w : Nat) (rows : List Row) :
    annexRows missing rows.length [(w, rows)] = rows.map (squareRow w missing) := by
  induction rows with
  | nil => rfl
  | cons r rs ih => simp [annexRows, ih]

/-- cut: one output row per input row; output cell j is input cell idx[j], `missing` if the row is short -/
theorem cut_cells (idx : List Nat) (missing : Val) (rows : List Row) :
    (pickRows idx missing rows).length = rows.length ∧
    ∀ (k : Nat) (r : Row), rows[k]? = some r → (pickRows idx missing rows)[k]? = some (idx.map (fun i => r.getD i missing)) := by
  refine ⟨List.length_map _, fun k r h => ?_⟩
  rw [pickRows, List.getElem?_map, h]
  rfl

/-- cut(spec) and cutout(spec) together cover every field exactly once -/
theorem cut_cutout_cover (w : Nat) (out : List Nat) (i : Nat) (hi : i < w) :
    let keep := (List.range w).filter (fun i => !out.contains i)
    (i ∈ out ∧ i ∉ keep) ∨ (i ∉ out ∧ i ∈ keep) := by
  intro keep
  by_cases h : i ∈ out
  · left; exact ⟨h, by simp [keep, h]⟩
  · right; exact ⟨h, by simp [keep, h, hi]⟩

/-- `movefield` rearranges the columns and nothing else: the output positions are a permutation of the input positions
    (no field lost, none duplicated — also when several fields carry the same name) … -/
theorem movefield_is_a_permutation (n fidx : Nat) (i : Int) (h : fidx < n) :
    (moveFieldIdx n fidx i).Perm (List.range n) := by
  refine (pyInsert_perm _ _ _).trans ?_
  rw [← List.Nodup.erase_eq_filter List.nodup_range]
  exact (List.perm_cons_erase (List.mem_range.mpr h)).symm

/-- … and every output cell is the input cell at its position, padded like `cut` -/
theorem movefield_cells (n fidx : Nat) (i : Int) (missing : Val) (rows : List Row) :
    pickRows (moveFieldIdx n fidx i) missing rows = rows.map (fun r => (moveFieldIdx n fidx i).map (padGet missing r)) := rfl

example : moveFieldIdx 3 0 1 = [1, 0, 2] ∧ moveFieldIdx 3 2 0 = [2, 0, 1] ∧ moveFieldIdx 3 0 (-1) = [1, 0, 2] := by decide

theorem addrownumbersRows_eq_mapIdx (a b : Int) (rows : List Row) (k : Nat) :
    addrownumbersRows a b k rows = rows.mapIdx (fun j r => intVal (a + b * ((k + j : Nat) : Int)) :: r) := by
  induction rows generalizing k with
  | nil => rfl
  | cons r rs ih =>
    rw [addrownumbersRows, ih, List.mapIdx_cons]
    simp only [Nat.add_zero, Nat.add_right_comm k 1, Nat.add_assoc]

theorem filldownRows_length (idx : List Nat) (m : Val) (rows : List Row) (fill : Row) :
    (filldownRows idx m fill rows).length = rows.length := by
  induction rows generalizing fill with
  | nil => rfl
  | cons r rs ih => exact congrArg (· + 1) (ih _)

theorem transforms_one_row_per_row (idx : List Nat) (m : Val) (w : Nat) (rows : List Row) (a b : Int)
    (fv : FieldVal) (index : Option Int) (fill : Row) (outhdr hdr : Row) :
    (pickRows idx m rows).length = rows.length ∧
    (catRows outhdr m (hdr :: rows)).length = rows.length ∧
    (rows.map (stackRow w m true true)).length = rows.length ∧
    (rows.map (fun r => pyInsert (squareRow w m r) index (fv.eval (squareRow w m r)))).length = rows.length ∧
    (addrownumbersRows a b 0 rows).length = rows.length ∧
    (filldownRows idx m fill rows).length = rows.length ∧
    (rows.map (fillrightRow m none)).length = rows.length ∧ (rows.map (fillleftRow m)).length = rows.length ∧
    (recordsOf w m rows).length = rows.length ∧ (valuesOf idx m rows).length = rows.length :=
  -- all but `filldown` are a `map` or `mapIdx` over the rows
  ⟨List.length_map _, List.length_map _, List.length_map _, List.length_map _,
    by rw [addrownumbersRows_eq_mapIdx, List.length_mapIdx], filldownRows_length idx m rows fill,
    List.length_map _, List.length_map _, List.length_map _, List.length_map _⟩

theorem addrownumbers_frame (a b : Int) : ∀ (rows : List Row) (k : Nat) (j : Nat) (r : Row),
    rows[j]? = some r → (addrownumbersRows a b k rows)[j]? = some (intVal (a + b * ((k + j : Nat) : Int)) :: r) := by
  intro rows k j r h
  rw [addrownumbersRows_eq_mapIdx, List.getElem?_mapIdx, h]
  rfl

/-- convert keeps the row length and every cell of a field without a converter unchanged -/
theorem convert_frame (onErr : Err → Val) (convs : Nat → Option Conv) (r : Row) (j : Nat) (v : Val)
    (hv : r[j]? = some v) (hc : convs j = none) :
    (C19.rowOut onErr convs 0 r).length = r.length ∧ (C19.rowOut onErr convs 0 r)[j]? = some v := by
  rw [C19.rowOut_eq_mapIdx]
  refine ⟨List.length_mapIdx, ?_⟩
  rw [List.getElem?_mapIdx, hv, Nat.zero_add, hc]
  rfl

theorem header_functions_keep_data (h : Row) (p : List Nat) (spec : List (FSpec × Val)) (t : Table) :
    (setheaderView h t).rows.drop 1 = t.drop 1 ∧
    (extendheaderView h t).rows.drop 1 = t.drop 1 ∧
    (pushheaderView h t).rows.drop 1 = t ∧
    (prefixheaderView p t).rows.drop 1 = t.drop 1 ∧ (suffixheaderView p t).rows.drop 1 = t.drop 1 ∧
    ((renameView spec false t).rows.drop 1 = t.drop 1) := by
  refine ⟨rfl, rfl, rfl, ?_, ?_, rfl⟩
  · cases t <;> rfl
  · cases t <;> rfl

/-- `rename` is simultaneous: output field `i` is a function of `i`, the input field at `i` and the spec alone
    (never of what another entry of the spec produced); the header keeps its length -/
theorem rename_pointwise (spec : List (FSpec × Val)) (t : Table) :
    ((renameView spec false t).rows.headD []).length = (t.headD []).length ∧
    ∀ (i : Nat) (c : Val), (t.headD [])[i]? = some c →
      ((renameView spec false t).rows.headD [])[i]? = some
        (match spec.find? (fun s => s.1 == .idx i) with
         | some s => s.2
         | none => match spec.find? (fun s => match s.1, c with | .name n, .str m => n == m | _, _ => false) with
           | some s => s.2
           | none => c) := by
  constructor
  · show ((t.headD []).zipIdx.map _).length = _
    rw [List.length_map, List.length_zipIdx]
  · intro i c h
    show ((t.headD []).zipIdx.map _)[i]? = _
    rw [List.getElem?_map, List.getElem?_zipIdx, h, Nat.zero_add]
    rfl

theorem fillrightRow_length (m : Val) : ∀ (r : Row) (p : Option Val), (fillrightRow m p r).length = r.length := by
  intro r p
  fun_induction fillrightRow m p r with
  | case1 => rfl
  | case2 c cs ih | case3 p c cs c' ih => exact congrArg (· + 1) ih

/-- fillright keeps the row length and never changes a non-missing cell -/
theorem fillright_frame (m : Val) : ∀ (r : Row) (p : Option Val) (j : Nat) (v : Val),
    r[j]? = some v → Val.pyEq v m = false → (fillrightRow m p r)[j]? = some v := by
  intro r p j v h hv
  fun_induction fillrightRow m p r generalizing j with
  | case1 => cases h
  | case2 c cs ih =>
    cases j with
    | zero => exact h
    | succ j => exact ih j h
  | case3 p c cs c' ih =>
    cases j with
    | zero => cases h; simp [c', hv]
    | succ j => exact ih j h

/-- filldown changes only cells of the selected fields that equal `missing` -/
theorem filldown_frame (idx : List Nat) (m : Val) (fill r : Row) (rs : List Row) (j : Nat) (v : Val)
    (hv : r[j]? = some v) (h : idx.contains j = false ∨ Val.pyEq v m = false) :
    ∃ out rest, filldownRows idx m fill (r :: rs) = out :: rest ∧ out.length = r.length ∧ out[j]? = some v := by
  refine ⟨_, _, rfl, by simp, ?_⟩
  simp only [List.getElem?_map, List.getElem?_zipIdx, hv, Option.map_some, Nat.zero_add]
  -- `h` says that the guard of the cell's `if` is false
  rw [Bool.and_eq_false_iff.2 h]
  rfl

theorem accessors_pad (w : Nat) (m : Val) (i : Nat) (rows : List Row) :
    (∀ r ∈ recordsOf w m rows, r.length = w) ∧
    valuesOf [i] m rows = rows.map (fun r => r.getD i m) ∧
    (columnsOf w m rows).length = w :=
  ⟨List.forall_mem_map.2 fun r _ => (squareRow_spec w m r).1, by simp [valuesOf, padGet], by simp [columnsOf]⟩

/-- an integer below the header's length is taken as an index (priority over names) -/
theorem asindices_index_priority (hdr : Row) (i : Nat) (h : i < hdr.length) :
    asindices hdr [.idx i] = .ok [i] := by
  simp [asindices, asindicesAux, h, Except.map]

/-- a name selects the first field of that name; repeating it selects the next one -/
theorem asindices_names_left_to_right (s t : List Nat) (ht : t ≠ s) :
    asindices [.str s, .str t, .str s] [.name s, .name s] = .ok [0, 2] ∧
    asindices [.str t, .str s] [.name s] = .ok [1] ∧
    asindices [.str t, .str s] [.name s, .name s] = .error .fieldSelection := by
  have h1 := mt Option.some.inj ht
  refine ⟨?_, ?_, ?_⟩ <;> simp [asindices, asindicesAux, findName, fldName, h1, Except.map]

/-- cat aligns by field name: over its own (distinct) header a table's rows are just squared up -/
theorem cat_aligns_by_name (hdr : Row) (m : Val) (rows : List Row)
    (hd : ∀ i, i < hdr.length → hdrIndex hdr (hdr.getD i .none) = some i) :
    catRows hdr m (hdr :: rows) = rows.map (fun r => (List.range hdr.length).map (fun i => r.getD i m)) := by
  simp only [catRows, List.headD_cons]
  refine List.map_congr_left fun r _ => ?_
  -- the header is the list of its cells by position, and by `hd` the cell at position `i` is found at `i`
  refine (congrArg (List.map _) (map_getCell_range hdr).symm).trans ?_
  rw [List.map_map]
  refine List.map_congr_left fun i hi => ?_
  simp only [Function.comp, getCell, hd i (List.mem_range.1 hi)]
  rfl

/-! non-vacuity -/
example : pyInsert [1, 2, 3] (some (-1)) 9 = [1, 2, 9, 3] ∧ pyInsert [1, 2, 3] (some 7) 9 = [1, 2, 3, 9] ∧
    pyInsert [1, 2, 3] (some (-9)) 9 = [9, 1, 2, 3] ∧ pyInsert [1, 2, 3] none 9 = [1, 2, 3, 9] := by decide

end Petl.C12
