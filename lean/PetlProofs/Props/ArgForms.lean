/-
  Shared obligation of C07, C09, C10 and C12 (tie by translation): a field selection, key, value spec, index, count
  or `missing` value may be 0, '' or an empty tuple, so none of the functions of petl/transform and
  petl/util/{base,lookups,materialise,counting} tests such a parameter by truthiness — except at the sites below,
  each read by hand: the tested parameter is a callable-or-None (`where`), a collection-or-None whose empty value means
  the same as None (`fillfields`, `keys`, `newfields`, `include`, `exclude`), a plain flag (`prefix`), or the cache limit `self.n` of CacheView, for which 0 and None both mean no limit.
  The list of sites is regenerated from the source on every run (translators/argforms.py).
-/
import Petl.Gen.ArgForms

namespace Petl.ArgForms
open Petl.Gen

def reviewedTruthiness : List (String × String × String) := [
  ("transform.conversions.iterfieldconvert", "where", "pass_row or where"),
  ("transform.dedup.DistinctView.__iter__", "self.count", "self.count"),
  ("transform.dedup.iterconflicts", "exclude", "exclude and (not isinstance(exclude, (list, tuple)))"),
  ("transform.dedup.iterconflicts", "exclude", "exclude and f not in exclude or (include and f in include) or (not exclude and (not include))"),
  ("transform.dedup.iterconflicts", "exclude", "include and exclude"),
  ("transform.dedup.iterconflicts", "include", "exclude and f not in exclude or (include and f in include) or (not exclude and (not include))"),
  ("transform.dedup.iterconflicts", "include", "include and (not isinstance(include, (list, tuple)))"),
  ("transform.dedup.iterconflicts", "include", "include and exclude"),
  ("transform.fills.iterfilldown", "fillfields", "not fillfields"),
  ("transform.joins.itercrossjoin", "prefix", "prefix"),
  ("transform.regex.itercapture", "newfields", "newfields"),
  ("transform.regex.itersplit", "newfields", "newfields"),
  ("transform.unpacks.iterunpackdict", "keys", "not keys"),
  ("util.materialise.CacheView.__iter__", "self.n", "(not self.n or len(self.cache) < self.n) and len(self.cache) == i"),
  ("util.materialise.CacheView.__iter__", "self.n", "not self.n or len(self.cache) < self.n")
]

theorem selection_arguments_not_tested_by_truthiness :
    ∀ s ∈ truthinessSites, reviewedTruthiness.contains s = true := by
  -- `simp` compares string literals at their first differing character; the kernel's `String.decEq`
  -- would first turn every literal into its UTF-8 bytes
  simp [truthinessSites, reviewedTruthiness]

/-- comparisons of such a parameter by identity (`is` / `is not`) with anything but None: only the chained
    `key is lkey is rkey is None` idiom of keys_from_args (all three omitted).  A cell is never the same object as an
    argument, so `x is missing` is not `x == missing`. -/
def reviewedIdentity : List (String × String × String) := [
  ("transform.joins.keys_from_args", "key", "key is lkey is rkey is None"),
  ("transform.joins.keys_from_args", "lkey", "key is lkey is rkey is None"),
  ("transform.joins.keys_from_args", "lkey", "lkey is rkey is None"),
  ("transform.joins.keys_from_args", "rkey", "key is lkey is rkey is None"),
  ("transform.joins.keys_from_args", "rkey", "lkey is rkey is None")
]

theorem selection_arguments_not_compared_by_identity :
    ∀ s ∈ identitySites, reviewedIdentity.contains s = true := by
  simp [identitySites, reviewedIdentity]

end Petl.ArgForms
