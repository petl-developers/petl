/-
  C19, tie by translation: the if-chains of the four `except Exception as e:` handlers (regenerated from the
  source on every run as `Petl.Gen.policyLadders`) are the expected ones, and the expected chains take, under
  each of the three policies, exactly the action the model takes.
-/
import Petl.Gen.PolicyLadder

namespace Petl.C19
open Petl.Gen

def cellLadder : List (PCond × PAct) := [(.isInline, .deliverExc), (.truthy, .reraise), (.otherwise, .errorvalue)]
def rowLadder : List (PCond × PAct) := [(.isInline, .deliverExc), (.truthy, .reraise), (.otherwise, .drop)]

/-- the handlers of the current source are the expected ones (re-checked on every run) -/
theorem ladders_as_expected :
    policyLadders = [("convert", cellLadder), ("fieldmap", cellLadder), ("rowmap", rowLadder), ("rowmapmany", rowLadder)] :=
  rfl

/-- … and every view constructor falls back to `petl.config.failonerror` -/
theorem defaults_from_config : ∀ d ∈ policyDefaultFromConfig, d.2 = true := by decide

/-- cell operators (convert, fieldmap): inline delivers the exception object, True re-raises, False delivers errorvalue -/
theorem cellLadder_sem (p : Policy) :
    ladderAct cellLadder p = (match p with | .inline => .deliverExc | .raise => .reraise | .suppress => .errorvalue) := by
  cases p <;> rfl

/-- … which is what the model's `transformValue` does with a failing converter -/
theorem transformValue_follows_ladder (p : Policy) (ev : Val) (c : Conv) (v : Val) (e : Err) (h : c v = .error e) :
    transformValue p ev (some c) v =
      (match ladderAct cellLadder p with
        | .deliverExc => .ok (excVal e) | .reraise => .error e | .errorvalue => .ok ev | .drop => .ok ev) := by
  cases p <;> simp [transformValue, h, ladderAct, cellLadder, PCond.holds]

/-- row operators (rowmap, rowmapmany): inline delivers a one-cell row with the exception, True re-raises, False drops the row -/
theorem rowLadder_sem (p : Policy) :
    ladderAct rowLadder p = (match p with | .inline => .deliverExc | .raise => .reraise | .suppress => .drop) := by
  cases p <;> rfl

/-- … which is what the model's `rowmapRows` does with a failing mapper -/
theorem rowmapRows_follows_ladder (p : Policy) (f : Row → Except Err Row) (r : Row) (rs : List Row) (e : Err)
    (h : f r = .error e) :
    rowmapRows p f (r :: rs) =
      (match ladderAct rowLadder p with
        | .reraise => ([], some e)
        | .deliverExc => ([excVal e] :: (rowmapRows p f rs).1, (rowmapRows p f rs).2)
        | _ => rowmapRows p f rs) := by
  cases p <;> simp [rowmapRows, h, ladderAct, rowLadder, PCond.holds]

end Petl.C19
