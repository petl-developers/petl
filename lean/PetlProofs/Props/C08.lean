/-
  C08 — set operations obey multiset algebra; hash variants agree.
  `countRow x l` = multiplicity of row `x` in `l` under row equality (Python `==` on tuples).
  Domain guard, as the property states it: the rows have the header's length (`Rect`); then the sort
  with key=None sorts them as tuples, and only the sort-based theorems need it.  The statements also
  carry `hw : 1 ≤ ahdr.length`, the case in which the model's `setOpView` reaches the sort-based loops
  at all; no proof uses it.
-/
import PetlProofs.SetOps

namespace Petl.C08

variable (ahdr bhdr : Row) (bs : Option Nat) (A B : List Row)
  (hw : 1 ≤ ahdr.length) (hwb : bhdr.length = ahdr.length)
  (hbs : ∀ b, bs = some b → 1 ≤ b) (hA : Rect ahdr.length A) (hB : Rect ahdr.length B)

section sorted
include hwb hbs hA hB

/-- the one place where the guard `Rect` is used (in `sortAll_sorted`) -/
theorem count_on_sorted (F : List Row → List Row → List Row) (g : Nat → Nat → Nat) (x : Row)
    (hF : ∀ X Y, SortedRows X → SortedRows Y → countRow x (F X Y) = g (countRow x X) (countRow x Y)) :
    countRow x (F (sortAll ahdr bs A) (sortAll bhdr bs B)) = g (countRow x A) (countRow x B) := by
  rw [hF _ _ (sortAll_sorted ahdr bs hbs A hA) (sortAll_sorted bhdr bs hbs B (hwb ▸ hB)),
      countRow_perm x (sortAll_perm ahdr bs hbs A), countRow_perm x (sortAll_perm bhdr bs hbs B)]

include hw

/-- complement(a, b) is the multiset difference a − b, for every buffer size -/
theorem complement_count (x : Row) :
    countRow x (complLoop false (sortAll ahdr bs A) (sortAll bhdr bs B)) = countRow x A - countRow x B :=
  count_on_sorted ahdr bhdr bs A B hwb hbs hA hB (complLoop false) (· - ·) x (complLoop_count x)

/-- strict=True: every row of a that does not occur in b at all -/
theorem complement_strict_count (x : Row) :
    countRow x (complLoop true (sortAll ahdr bs A) (sortAll bhdr bs B))
      = if countRow x B = 0 then countRow x A else 0 :=
  count_on_sorted ahdr bhdr bs A B hwb hbs hA hB (complLoop true) (fun a b => if b = 0 then a else 0) x
    (complLoop_count_strict x)

/-- intersection(a, b) is the multiset intersection -/
theorem intersection_count (x : Row) :
    countRow x (interLoop (sortAll ahdr bs A) (sortAll bhdr bs B)) = min (countRow x A) (countRow x B) :=
  count_on_sorted ahdr bhdr bs A B hwb hbs hA hB interLoop min x (interLoop_count x)

/-- complement(a, b) together with intersection(a, b) reassemble a -/
theorem complement_append_intersection (x : Row) :
    countRow x (complLoop false (sortAll ahdr bs A) (sortAll bhdr bs B)
                ++ interLoop (sortAll ahdr bs A) (sortAll bhdr bs B)) = countRow x A :=
  countRow_perm x ((compl_append_inter_perm _ _).trans (sortAll_perm ahdr bs hbs A))

/-- the hash variants return the same multisets as the sort-based ones … -/
theorem hash_variants_same_counts (x : Row) :
    countRow x (hashComplLoop false A B) = countRow x (complLoop false (sortAll ahdr bs A) (sortAll bhdr bs B)) ∧
    countRow x (hashComplLoop true A B) = countRow x (complLoop true (sortAll ahdr bs A) (sortAll bhdr bs B)) ∧
    countRow x (hashInterLoop A B) = countRow x (interLoop (sortAll ahdr bs A) (sortAll bhdr bs B)) := by
  rw [complement_count ahdr bhdr bs A B hw hwb hbs hA hB x,
      complement_strict_count ahdr bhdr bs A B hw hwb hbs hA hB x,
      intersection_count ahdr bhdr bs A B hw hwb hbs hA hB x]
  exact ⟨hashComplLoop_count x A B, hashComplLoop_count_strict x A B, hashInterLoop_count x A B⟩

end sorted

/-- … and keep the order of `a` (no guard needed) -/
theorem hash_variants_in_order_of_a (strict : Bool) :
    List.Sublist (hashComplLoop strict A B) A ∧ List.Sublist (hashInterLoop A B) A :=
  ⟨hashComplLoop_sublist strict A B, hashInterLoop_sublist A B⟩

/-- the Counter loops compute difference/intersection for arbitrary (also ragged) rows -/
theorem hash_counts (x : Row) :
    countRow x (hashComplLoop false A B) = countRow x A - countRow x B ∧
    countRow x (hashInterLoop A B) = min (countRow x A) (countRow x B) :=
  ⟨hashComplLoop_count x A B, hashInterLoop_count x A B⟩

/-! non-vacuity: a rectangular table with a duplicated row and cross-type equal cells -/
omit hw hwb hbs hA hB in
example : Rect 2 [[Val.num .int (.fin 1), .none], [.num .float (.fin 1), .none]] ∧
    countRow [Val.num .bool (.fin 1), .none] [[Val.num .int (.fin 1), .none], [.num .float (.fin 1), .none]] = 2 := by
  unfold Rect; decide

end Petl.C08
