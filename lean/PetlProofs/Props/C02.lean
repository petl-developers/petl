/-
  C02 — pipelines are lazy: nothing is read until rows are requested, and then only O(k).

  `runLazy t k s src` models a consumer taking k rows from a streaming operator under generator
  semantics.  Partial by nature: CPython's generator protocol is the execution model assumed; the
  tie to the code is the pull-count correspondence and the constructor-purity table.
-/
import Petl.Lazy
import Petl.Gen.CtorReads
import Petl.Gen.Materialise

namespace Petl.C02

variable {σ : Type}

/-- requesting no rows pulls no rows: building (and holding) a view costs nothing -/
theorem construct_pulls_zero (t : Transducer σ) (s : σ) (src : List Row) : runLazy t 0 s src = ([], 0) := by
  cases src <;> rfl

/-! The general facts follow the recursion of `runLazy` (`fun_induction`): no rows asked for; source exhausted;
    the next source row yields enough; it does not, and the rest is asked of the remaining source. -/

/-- laziness never changes what is delivered: the first k rows of the full output -/
theorem runLazy_outputs (t : Transducer σ) : ∀ (src : List Row) (k : Nat) (s : σ),
    (runLazy t k s src).1 = (runAll t s src).take k := by
  intro src k s
  fun_induction runLazy t k s src with
  | case1 | case2 k s => rfl
  | case3 k s r rest h => rw [runAll, List.take_append_of_le_length h]
  | case4 k s r rest h ih =>
    rw [runAll, List.take_append, List.take_of_length_le (Nat.le_of_not_le h), ih]

/-- never more source rows than there are -/
theorem pulls_le_length (t : Transducer σ) : ∀ (src : List Row) (k : Nat) (s : σ),
    (runLazy t k s src).2 ≤ src.length := by
  intro src k s
  fun_induction runLazy t k s src with
  | case1 | case2 k s => exact Nat.zero_le _
  | case3 k s r rest h => exact Nat.succ_le_succ (Nat.zero_le _)
  | case4 k s r rest h ih => exact Nat.succ_le_succ ih

theorem shorter_prefix_lt (t : Transducer σ) (src : List Row) (k : Nat) (s : σ) (n : Nat)
    (hn : n < (runLazy t k s src).2) : (runBody t s (src.take n)).length < k := by
  fun_induction runLazy t k s src generalizing n with
  | case1 | case2 k s => cases hn
  | case3 k s r rest h => cases Nat.lt_one_iff.mp hn; exact Nat.succ_pos k
  | case4 k s r rest h ih =>
    cases n with
    | zero => exact Nat.succ_pos k
    | succ n =>
      rw [List.take_succ_cons, runBody, List.length_append]
      exact Nat.add_lt_of_lt_sub' (ih n (Nat.lt_of_succ_lt_succ hn))

/-- minimal prefix: the rows pulled are the least prefix of the source whose image contains k
    output rows — one row fewer would not have been enough -/
theorem minimal_prefix (t : Transducer σ) : ∀ (src : List Row) (k : Nat) (s : σ),
    (runLazy t k s src).2 = 0 ∨ (runBody t s (src.take ((runLazy t k s src).2 - 1))).length < k := by
  intro src k s
  cases hp : (runLazy t k s src).2 with
  | zero => exact .inl rfl
  | succ p => exact .inr (shorter_prefix_lt t src k s p (hp ▸ Nat.lt_succ_self p))

/-- the cost does not depend on the length of the source: if the k rows are produced while the
    source is consumed, nothing after them is ever looked at — same rows and same number of pulls
    for a 100-row and a 10 000-row source sharing that prefix -/
theorem length_independent (t : Transducer σ) : ∀ (src more : List Row) (k : Nat) (s : σ),
    k ≤ (runBody t s src).length → runLazy t k s (src ++ more) = runLazy t k s src := by
  intro src more k s hk
  fun_induction runLazy t k s src with
  | case1 => exact construct_pulls_zero t _ _
  | case2 k s => cases hk
  | case3 k s r rest h => rw [List.cons_append, runLazy, if_pos h]
  | case4 k s r rest h ih =>
    rw [runBody, List.length_append] at hk
    rw [List.cons_append, runLazy, if_neg h, ih (Nat.sub_le_iff_le_add'.mpr hk)]

/-- one-to-one operators: k output rows cost exactly k source rows (fewer only if the source is shorter) -/
theorem oneToOne_pulls (f : Row → Row) : ∀ (src : List Row) (k : Nat),
    (runLazy (mapT f) k () src).2 = min k src.length := by
  intro src k
  fun_induction runLazy (mapT f) k () src with
  | case1 => exact (Nat.zero_min _).symm
  | case2 k s => rfl
  | case3 k s r rest h =>
    have : k = 0 := Nat.le_zero.mp (Nat.le_of_succ_le_succ h)
    subst this
    exact (Nat.min_eq_left (Nat.succ_le_succ (Nat.zero_le _))).symm
  | case4 k s r rest h ih =>
    rw [ih, ← Nat.add_min_add_right]
    rfl

theorem runAll_eq_runBody (t : Transducer σ) (hf : ∀ s, t.finish s = []) (l : List Row) (s : σ) :
    runAll t s l = runBody t s l := by
  induction l generalizing s with
  | nil => exact hf s
  | cons a l ih => rw [runAll, runBody, ih]

theorem runBody_filterT (p : Row → Bool) (l : List Row) : runBody (filterT p) () l = l.filter p := by
  induction l with
  | nil => rfl
  | cons a l ih =>
    rw [runBody, ih, List.filter_cons]
    show (if p a = true then [a] else []) ++ _ = _
    cases p a <;> rfl

/-- filters: the source is consumed up to and including the k-th satisfying row, no further -/
theorem filter_pulls (p : Row → Bool) (src : List Row) (k : Nat) :
    (runLazy (filterT p) k () src).1 = (src.filter p).take k ∧
    ((runLazy (filterT p) k () src).2 = 0 ∨
      ((src.take ((runLazy (filterT p) k () src).2 - 1)).filter p).length < k) :=
  ⟨by rw [runLazy_outputs, runAll_eq_runBody _ (fun _ => rfl), runBody_filterT],
    runBody_filterT p _ ▸ minimal_prefix (filterT p) src k ()⟩

/-- from any state of `lookaheadT`: k output rows cost at most k source rows, and one more unless a row is
    already held back -/
theorem lookahead_pulls_from (f : Option Row → Row → Option Row → Row) (src : List Row) (k : Nat)
    (s : Nat × Option Row × Option Row) :
    (runLazy (lookaheadT f) k s src).2 ≤ k + (match s with | (_ + 1, _, some _) => 0 | _ => 1) := by
  fun_induction runLazy (lookaheadT f) k s src with
  | case1 | case2 k s => exact Nat.zero_le _
  | case3 k s r rest h => exact Nat.le_add_right_of_le (Nat.succ_pos k)
  | case4 k s r rest h ih =>
    -- in each state the step computes: the header and a held row are answered by one output row, the first
    -- data row by none; after the header no row is held yet, after a data row one is
    obtain ⟨n, prev, cur⟩ := s
    cases n with
    | zero => exact Nat.succ_le_succ ih
    | succ n => cases cur <;> exact Nat.succ_le_succ ih

/-- one row of lookahead (addfieldusingcontext): k output rows (header included) cost at most k + 1
    source rows — a constant, whatever the source length.  Not selectusingcontext: it looks ahead one
    row too, but is a filter, and `lookaheadT` answers every row it is given. -/
theorem lookahead_pulls (f : Option Row → Row → Option Row → Row) (src : List Row) (k : Nat) :
    (runLazy (lookaheadT f) k (0, none, none) src).2 ≤ k + 1 :=
  lookahead_pulls_from f src k (0, none, none)

/-- the call sites that read a table while a view is being *constructed* (not iterated) are all on
    this list: header-only reads documented by petl, and functions whose result is not a table view -/
def allowedCtorReads : List (String × String) := [
  ("transform.conversions.convertall", "header"),
  ("transform.joins.natural_key", "header"),
  ("transform.setops.recordcomplement", "header"),
  ("util.base.fieldnames", "header"),
  ("transform.selects.facet", "rows"),
  ("util.counting.nrows", "rows"), ("util.counting.parsecounter", "rows"), ("util.counting.rowlengths", "rows"),
  ("util.counting.stringpatterncounter", "rows"), ("util.counting.typecounter", "rows"),
  ("util.counting.valuecount", "rows"), ("util.counting.valuecounter", "rows"),
  ("util.materialise.listoflists", "rows"), ("util.materialise.listoftuples", "rows"),
  ("util.materialise.tupleoflists", "rows"), ("util.materialise.tupleoftuples", "rows"),
  ("util.misc.typeset", "rows"), ("util.statistics.limits", "rows"), ("util.statistics.stats", "rows")]

theorem constructors_read_only_where_allowed :
    ∀ r ∈ Gen.ctorReads, allowedCtorReads.contains (r.site, r.kind) = true := by
  decide +kernel

/-- The generator functions that consume a source wholesale (or a bounded sample of it) while iterating, each a
    documented necessity: `tail` needs the end of the table; the hash joins and hash set operations read their build
    side (right table / second table) completely before streaming the other; `crossjoin` materialises its inputs
    (itertools.product); `aggregate(key=None, len)` counts the rows; the external sort reads one buffer at a time;
    `recast` and `unpackdict` sample `samplesize` rows to discover the output fields, `fromdicts` samples `sample` dicts
    to discover the header (since petl dd7a99f with an explicit `list(islice(...))`; before, hidden in `iterpeek`).  Every other generator function
    of petl/transform, util/{base,materialise,timing,vis,lookups} and the text-format readers contains no such site. -/
def allowedMaterialise : List (String × String × String) := [
  ("transform.basics.itertail", "full", "loop-without-yield"),
  ("transform.hashjoins.iterhashantijoin", "full", "loop-without-yield"),
  ("transform.hashjoins.iterhashlookupjoin", "full", "lookupone"),
  ("transform.joins.itercrossjoin", "full", "comprehension"),
  ("transform.reductions.itersimpleaggregate", "full", "nrows"),
  ("transform.setops.iterhashcomplement", "full", "Counter(genexp)"),
  ("transform.setops.iterhashintersection", "full", "Counter(genexp)"),
  ("transform.reshape.iterrecast", "bounded", "loop-without-yield(islice)"),
  ("transform.sorts.SortView._iternocache", "bounded", "list(islice)"),
  ("transform.unpacks.iterunpackdict", "bounded", "list(islice)"),
  ("io.json.iterdicts", "bounded", "list(islice)")]

theorem iterators_materialise_only_where_allowed :
    ∀ m ∈ Gen.materialisations, allowedMaterialise.contains (m.fn, m.kind, m.callee) = true := by
  decide +kernel

/-! non-vacuity -/
example : (runLazy (filterT (fun r => r.length == 1)) 2 () [[], [.none], [], [.none], [.none], []]).2 = 4 := by decide

end Petl.C02
