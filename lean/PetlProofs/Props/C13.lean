/-
  C13 — selections return exactly the satisfying rows; complement is the exact rest.
-/
import Petl.Select
import PetlProofs.Order

namespace Petl.C13

/-- `fieldSelect`, `rowSelect` and `searchRows` all filter by `test != complement`: the two values of
    `complement` give the filter by the test and by its negation, which split the list -/
theorem filter_bne {α : Type} (f : α → Bool) (l : List α) :
    l.filter (fun x => f x != false) = l.filter f ∧ l.filter (fun x => f x != true) = l.filter (fun x => !f x) := by
  simp only [Bool.bne_false, Bool.bne_true, and_self]

theorem filter_bne_partition {α : Type} (f : α → Bool) (l : List α) :
    (l.filter (fun x => f x != false) ++ l.filter (fun x => f x != true)).Perm l ∧
    (l.filter (fun x => f x != false)).Sublist l ∧ (l.filter (fun x => f x != true)).Sublist l := by
  rw [(filter_bne f l).1, (filter_bne f l).2]
  exact ⟨List.filter_append_perm f l, List.filter_sublist, List.filter_sublist⟩

/-- select returns, in input order, exactly the rows that satisfy the predicate
    (missing cells read as `missing`) -/
theorem select_is_filter (idx : List Nat) (missing : Val) (p : Val → Bool) (rows : List Row) :
    fieldSelect idx missing p false rows = rows.filter (fun r => p (fieldValue idx missing r)) ∧
    fieldSelect idx missing p true rows = rows.filter (fun r => !p (fieldValue idx missing r)) :=
  filter_bne _ rows

/-- the selection and its complement partition the input: each is a sublist (order preserved),
    together they are a permutation of the input, and no row satisfies both -/
theorem select_complement_partition (idx : List Nat) (missing : Val) (p : Val → Bool) (rows : List Row) :
    List.Sublist (fieldSelect idx missing p false rows) rows ∧
    List.Sublist (fieldSelect idx missing p true rows) rows ∧
    (fieldSelect idx missing p false rows ++ fieldSelect idx missing p true rows).Perm rows ∧
    (fieldSelect idx missing p false rows).length + (fieldSelect idx missing p true rows).length = rows.length := by
  obtain ⟨hp, h1, h2⟩ := filter_bne_partition (fun r => p (fieldValue idx missing r)) rows
  exact ⟨h1, h2, hp, List.length_append ▸ hp.length_eq⟩

theorem rowselect_partition (p : Row → Bool) (rows : List Row) :
    (rowSelect p false rows ++ rowSelect p true rows).Perm rows ∧
    List.Sublist (rowSelect p false rows) rows ∧ List.Sublist (rowSelect p true rows) rows :=
  filter_bne_partition p rows

/-- the comparison selectors select by the ordering of C04 (for every cell value `v`, also None
    and values of another type than the reference value) -/
theorem comparison_selectors_use_C04_order (r v : Val) :
    (Pred.lt r).eval v = Val.lt v r ∧
    (Pred.le r).eval v = (Val.lt v r || Val.eq v r) ∧
    (Pred.gt r).eval v = Val.lt r v ∧
    (Pred.ge r).eval v = (Val.lt r v || Val.eq v r) :=
  ⟨Val.gt_eq_lt r v, Val.ge_eq_le r v, rfl, congrArg (Val.lt r v || ·) (Val.eq_symm r v)⟩

/-- `Val.gt` is defined as the negation of `Val.le`, and `Val.ge` as that of `Val.lt` -/
theorem selectlt_ge_complement (r v : Val) : (Pred.lt r).eval v = !(Pred.ge r).eval v := rfl

theorem selectle_gt_complement (r v : Val) : (Pred.le r).eval v = !(Pred.gt r).eval v := rfl

/-- the range selectors are the documented conjunctions -/
theorem range_selectors (a b v : Val) :
    (Pred.rangeOpenLeft a b).eval v = ((Pred.ge a).eval v && (Pred.lt b).eval v) ∧
    (Pred.rangeOpenRight a b).eval v = ((Pred.gt a).eval v && (Pred.le b).eval v) ∧
    (Pred.rangeOpen a b).eval v = ((Pred.ge a).eval v && (Pred.le b).eval v) ∧
    (Pred.rangeClosed a b).eval v = ((Pred.gt a).eval v && (Pred.lt b).eval v) :=
  ⟨rfl, rfl, rfl, congrArg (Val.lt a v && ·) (Val.gt_eq_lt b v).symm⟩

/-- the negated selectors are exact complements -/
theorem negated_selectors (r : Val) (vs : List Val) (v : Val) :
    (Pred.ne r).eval v = !(Pred.eq r).eval v ∧
    (Pred.notIn vs).eval v = !(Pred.isIn vs).eval v ∧
    Pred.notNone.eval v = !Pred.isNone.eval v ∧
    Pred.isFalse.eval v = !Pred.isTrue.eval v := ⟨rfl, rfl, rfl, rfl⟩

/-- hence e.g. selectnotnone(t) = selectnone(t, complement=True), for every table -/
theorem negated_selector_is_complement (idx : List Nat) (missing : Val) (p q : Pred)
    (h : ∀ v, q.eval v = !p.eval v) (rows : List Row) :
    fieldSelect idx missing q.eval false rows = fieldSelect idx missing p.eval true rows := by
  unfold fieldSelect
  simp only [h, Bool.bne_false, Bool.bne_true]

theorem everyNth_getElem? {α : Type} (step : Nat) (hs : 1 ≤ step) (l : List α) (k : Nat) :
    (everyNth step l)[k]? = l[k * step]? := by
  fun_induction everyNth step l generalizing k with
  | case1 => rfl
  | case2 x xs ih =>
    cases k with
    | zero => rw [Nat.zero_mul]; rfl
    | succ k =>
      rw [List.getElem?_cons_succ, ih, List.getElem?_drop,
        show (k + 1) * step = (step - 1 + k * step) + 1 by rw [Nat.succ_mul]; omega, List.getElem?_cons_succ]

/-- rowslice/head select rows by position exactly as itertools.islice: the k-th selected row is
    row `start + k*step`, as long as that index is below `stop` -/
theorem rowslice_eq_islice {α : Type} (start : Nat) (stop : Option Nat) (step : Nat) (hs : 1 ≤ step)
    (l : List α) (k : Nat) :
    (islice start stop step l)[k]? =
      if (match stop with | some s => decide (start + k * step < s) | none => true) then l[start + k * step]? else none := by
  unfold islice
  rw [everyNth_getElem? step hs, List.getElem?_drop]
  cases stop with
  | none => rfl
  | some s => simp only [List.getElem?_take, decide_eq_true_eq]

theorem head_is_take {α : Type} (n : Nat) (l : List α) : islice 0 (some n) 1 l = l.take n := by
  apply List.ext_getElem?
  intro k
  rw [islice, everyNth_getElem? 1 (Nat.le_refl 1), Nat.mul_one, List.drop_zero]

/-- tail(n) keeps the last n rows in order -/
theorem tail_is_suffix {α : Type} (n : Nat) (l : List α) :
    tailRows n l = l.drop (l.length - n) ∧ (tailRows n l).length = min n l.length := by
  refine ⟨rfl, ?_⟩
  rw [tailRows, List.length_drop, Nat.sub_sub_eq_min, Nat.min_comm]

/-- a compound field is read cell by cell: an absent cell as `missing`, a present one as it is
    (not the whole key as `missing`, which is what petl did before commit 28eb368) -/
theorem compound_field_cells (i j : Nat) (missing : Val) (r : Row) :
    fieldValue [i, j] missing r = .seq false [cellOr missing r i, cellOr missing r j] := rfl

theorem cellOr_absent (missing : Val) (r : Row) (i : Nat) (h : r.length ≤ i) : cellOr missing r i = missing :=
  if_pos h

theorem cellOr_present (missing : Val) (r : Row) (i : Nat) (h : i < r.length) : cellOr missing r i = getCell r i :=
  if_neg (Nat.not_le_of_lt h)

/-- the tables of `facet` cover the input: every row, ragged or not, is in the selection for its own key … -/
theorem facet_covers (idx : List Nat) (missing : Val) (rows : List Row) (r : Row) (h : r ∈ rows) :
    r ∈ fieldSelect idx missing (fun v => Val.pyEq v (fieldValue idx missing r)) false rows :=
  List.mem_filter.mpr ⟨h, by simp [Val.pyEq_refl]⟩

/-- … and only in selections for keys equal to its own -/
theorem facet_only_own_key (idx : List Nat) (missing k : Val) (rows : List Row) (r : Row)
    (h : r ∈ fieldSelect idx missing (fun v => Val.pyEq v k) false rows) :
    r ∈ rows ∧ Val.pyEq (fieldValue idx missing r) k = true := by
  have ⟨h1, h2⟩ := List.mem_filter.mp h
  exact ⟨h1, by simpa using h2⟩

/-- the ragged row of the repaired defect: key fields 0 and 1, the row `(1,)`: its key is `(1, missing)` -/
example : fieldValue [0, 1] .none [.num .int (.fin 1)] = .seq false [.num .int (.fin 1), .none] := rfl

/-- `search` and `searchcomplement` partition the rows, whatever the pattern matches and however ragged the table is:
    each is a sublist (order kept), together they are a permutation of the input -/
theorem search_partition (idx : Option (List Nat)) (rows : List (Row × List Bool)) :
    (searchRows idx false rows ++ searchRows idx true rows).Perm (rows.map (·.1)) ∧
    List.Sublist (searchRows idx false rows) (rows.map (·.1)) ∧
    List.Sublist (searchRows idx true rows) (rows.map (·.1)) := by
  obtain ⟨hp, h1, h2⟩ := filter_bne_partition (fun rm : Row × List Bool => searchMatch idx rm.1 rm.2) rows
  exact ⟨List.map_append ▸ hp.map _, h1.map _, h2.map _⟩

/-- a row too short to have the field searched never matches: it belongs to the complement -/
theorem search_short_row_in_complement (i : Nat) (r : Row) (m : List Bool) (h : r.length ≤ i) :
    searchMatch (some [i]) r m = false := by
  simp [searchMatch, Nat.not_lt_of_le h]

/-! non-vacuity: a reference value of another type, a None cell and a missing cell -/
example : (Pred.lt (.str [97])).eval (.num .int (.fin 5)) = true ∧ (Pred.lt (.num .int (.fin 5))).eval .none = true ∧
    Val.pyEq (fieldValue [1] (.str [63]) [.none]) (.str [63]) = true := by decide

end Petl.C13
