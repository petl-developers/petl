/-
  C05 (also used by C11), tie by translation: the syntactic facts about petl/transform/sorts.py on which the
  reading "chunks of `buffersize` rows, each stably sorted, merged with ties broken by chunk order; buffersize from
  petl.config when omitted" rests (see translators/merge_shape.py for why each matters), regenerated from the source on
  every run and compared with the text the model (Petl/Sort.lean) follows.
-/
import Petl.Gen.MergeShape

namespace Petl.C05
open Petl.Gen

def expectedMergeShape : List (String × String) := [
  ("_Keyed.__eq__", "return self.key == other.key"),
  ("_Keyed.__lt__", "return self.key < other.key"),
  ("_Keyed.__le__", "return self.key <= other.key"),
  ("_Keyed.__ne__", "return self.key != other.key"),
  ("_Keyed.__gt__", "return self.key > other.key"),
  ("_Keyed.__ge__", "return self.key >= other.key"),
  ("_mergesorted.signature", "key=None, reverse=False, *iterables"),
  ("_mergesorted.body", "if reverse: return _shortlistmergesorted(key, True, *iterables) else: return _heapqmergesorted(key, *iterables)"),
  ("_heapqmergesorted.body", "if key is None: keyed_iterables = iterables for element in heapq.merge(*keyed_iterables): yield element else: keyed_iterables = [(_Keyed(key(obj), obj) for obj in iterable) for iterable in iterables] for element in heapq.merge(*keyed_iterables): yield element.obj"),
  ("SortView._iterfromfilecache.calls._mergesorted", "_mergesorted(getkey, self.reverse, *chunkiters)"),
  ("SortView._iternocache.calls._mergesorted", "_mergesorted(getkey, reverse, *chunkiters)"),
  ("SortView.__init__.buffersize", "if buffersize is None: self.buffersize = config.sort_buffersize else: self.buffersize = buffersize"),
  ("SortView._iternocache.buffersize-use", "itertools.islice(it, 0, self.buffersize)"),
  ("SortView._iternocache.buffersize-use", "len(rows) < self.buffersize"),
  ("SortView._iternocache.buffersize-use", "self.buffersize is None")
]

theorem merge_machinery_as_modelled : mergeShape = expectedMergeShape := rfl

end Petl.C05
