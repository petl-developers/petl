/-
  C15 — writing a table and reading it back returns the same table.

  petl's own part is framing: which rows are rendered, header flags, append = concatenation, frame
  reading until EOF, header rediscovery for JSON records.  The codecs are hypotheses here, each
  named; Props/C15Csv.lean discharges the csv hypothesis (`RowCodecOK`) for the dialect family the
  property quantifies over, from the model of CPython's writer and reader (`Petl/Csv.lean`) and its
  round trip (`PetlProofs/Csv.lean`).
-/
import Petl.Codec

namespace Petl.C15

/-- hypothesis on a row codec: parsing the rendering of any list of rows gives their text form -/
def RowCodecOK (render : Row → Bytes) (parse : Bytes → List Row) (text : Row → Row) : Prop :=
  ∀ rows : List Row, parse (rows.flatMap render) = rows.map text

/-- tocsv/totsv then fromcsv/fromtsv: the same header and rows, every cell as text -/
theorem csv_roundtrip (render : Row → Bytes) (parse : Bytes → List Row) (text : Row → Row)
    (h : RowCodecOK render parse text) (t : Table) :
    fromBytes parse none (toBytes render true [] [] t) = t.map text := by
  simp [fromBytes, toBytes, h t]

/-- write_header=False drops exactly the header row; header=… on reading adds exactly one -/
theorem write_header_flag (render : Row → Bytes) (parse : Bytes → List Row) (text : Row → Row)
    (h : RowCodecOK render parse text) (t : Table) (hdr : Row) :
    toBytes render false [] [] t = toBytes render true [] [] (t.drop 1) ∧
    fromBytes parse (some hdr) (toBytes render false [] [] t) = hdr :: (t.drop 1).map text :=
  ⟨rfl, congrArg (hdr :: ·) (csv_roundtrip render parse text h (t.drop 1))⟩

/-- append* after to* equals writing the concatenation (append* skip the header by default) -/
theorem append_is_concat (render : Row → Bytes) (t1 t2 : Table) :
    appendBytes render false (toBytes render true [] [] t1) t2 = toBytes render true [] [] (t1 ++ t2.drop 1) := by
  simp [appendBytes, toBytes]

theorem append_twice (render : Row → Bytes) (t1 t2 t3 : Table) :
    appendBytes render false (appendBytes render false (toBytes render true [] [] t1) t2) t3
      = toBytes render true [] [] (t1 ++ t2.drop 1 ++ t3.drop 1) := by
  rw [append_is_concat, append_is_concat]

/-- pickle (and JSON lines): frames are self-delimiting, so reading until EOF returns exactly the
    objects dumped — also across an append boundary -/
theorem frames_roundtrip {α : Type} (dump : α → Bytes) (load : Bytes → Option (α × Bytes))
    (hload : ∀ x rest, load (dump x ++ rest) = some (x, rest)) (hne : ∀ x, dump x ≠ [])
    (xs : List α) (fuel : Nat) (hf : xs.length ≤ fuel) :
    readFrames load fuel (xs.flatMap dump) = xs := by
  induction xs generalizing fuel with
  | nil => cases fuel <;> simp [readFrames]
  | cons x xs ih =>
    cases fuel with
    | zero => simp at hf
    | succ fuel =>
      have hne' : (dump x ++ xs.flatMap dump).isEmpty = false := by simp [hne x]
      simp only [List.flatMap_cons, readFrames, hne', Bool.false_eq_true, if_false, hload]
      rw [ih fuel (Nat.le_of_succ_le_succ hf)]

theorem pickle_append (dump : Row → Bytes) (load : Bytes → Option (Row × Bytes))
    (hload : ∀ x rest, load (dump x ++ rest) = some (x, rest)) (hne : ∀ x, dump x ≠ []) (t1 t2 : Table) :
    readFrames load (t1.length + t2.length) (appendBytes dump false (toBytes dump true [] [] t1) t2)
      = t1 ++ t2.drop 1 := by
  rw [append_is_concat]
  simp only [toBytes, if_true, List.nil_append, List.append_nil]
  apply frames_roundtrip dump load hload hne
  simp

/-- compressed and in-memory sources: a lossless byte transport does not change what is read back -/
theorem transport_roundtrip (parse : Bytes → List Row) (compress decompress : Bytes → Bytes)
    (h : ∀ b, decompress (compress b) = b) (b : Bytes) (hdr : Option Row) :
    fromBytes parse hdr (decompress (compress b)) = fromBytes parse hdr b := by rw [h]

/-! ### JSON records: field names travel in the records; the header is rediscovered on reading -/

def recLookup (k : Val) : List (Val × Val) → Option Val
  | [] => none
  | (k', v) :: rest => if Val.pyEq k' k then some v else recLookup k rest

/-- `dicts(table)`: one record per data row -/
def toRecords (hdr : Row) (rows : List Row) : List (List (Val × Val)) := rows.map (fun r => hdr.zip r)

/-- `fromdicts` / `fromjson`: header from the keys of the first record, cells by key -/
def fromRecords (recs : List (List (Val × Val))) : Table :=
  let hdr := (recs.headD []).map (·.1)
  hdr :: recs.map (fun rec => hdr.map (fun k => (recLookup k rec).getD .none))

theorem recLookup_zip (hdr r : Row) (hlen : r.length = hdr.length)
    (hd : hdr.Pairwise (fun a b => Val.pyEq a b = false)) (hrefl : ∀ k ∈ hdr, Val.pyEq k k = true) :
    hdr.map (fun k => (recLookup k (hdr.zip r)).getD .none) = r := by
  induction hdr generalizing r with
  | nil => exact (List.eq_nil_of_length_eq_zero hlen).symm
  | cons k ks ih =>
    cases r with
    | nil => simp at hlen
    | cons v vs =>
      obtain ⟨hk, hks⟩ := List.pairwise_cons.1 hd
      obtain ⟨hkk, hrefl⟩ := List.forall_mem_cons.1 hrefl
      -- `k` finds its own value; the later names differ from `k` and look past it
      simp only [List.zip_cons_cons, List.map_cons, recLookup, hkk, if_true, Option.getD_some]
      exact congrArg (v :: ·) <| (List.map_congr_left fun k' hk' => by rw [hk k' hk']; rfl).trans <|
        ih vs (Nat.succ.inj hlen) hks hrefl

/-- tojson then fromjson (and fromdicts(dicts(t))): a table with distinct field names and at least
    one data row comes back with the same header and rows -/
theorem json_roundtrip (hdr : Row) (rows : List Row) (hne : rows ≠ [])
    (hrect : ∀ r ∈ rows, r.length = hdr.length)
    (hd : hdr.Pairwise (fun a b => Val.pyEq a b = false)) (hrefl : ∀ k ∈ hdr, Val.pyEq k k = true) :
    fromRecords (toRecords hdr rows) = hdr :: rows := by
  cases rows with
  | nil => exact absurd rfl hne
  | cons r0 rs =>
    have hh : ((toRecords hdr (r0 :: rs)).headD []).map (·.1) = hdr :=
      List.map_fst_zip (Nat.le_of_eq (hrect r0 List.mem_cons_self).symm)
    simp only [fromRecords, hh]
    congr 1
    rw [toRecords, List.map_map]
    exact (List.map_congr_left fun r hr => recLookup_zip hdr r (hrect r hr) hd hrefl).trans (List.map_id _)

/-! non-vacuity -/
example : fromRecords (toRecords [.str [97], .str [98]] [[.num .int (.fin 1), .none]]) =
    [[.str [97], .str [98]], [.num .int (.fin 1), .none]] := by
  apply json_roundtrip <;> decide

end Petl.C15
