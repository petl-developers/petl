/-
  C16 — pass-through views are transparent; a consumed tee writes what to* writes.
-/
import Petl.Codec
import PetlProofs.Props.C01

namespace Petl.C16

/-- a tee view yields exactly the rows of the table it wraps, in order (also when abandoned after
    k rows: it has delivered the first k) -/
theorem tee_rows_id (render : Row → Bytes) (wh : Bool) (pro epi : Bytes) (t : Table) (k : Nat) :
    (teeRun render wh pro epi t).1 = t ∧ (teeAfter render wh pro t k).1 = t.take k := by
  refine ⟨?_, rfl⟩
  cases t with
  | nil => rfl
  | cons h r => simp [teeRun, teeAfter]

/-- once iterated to the end, the sink holds byte-for-byte what the corresponding to* function
    writes for the same table and arguments — for every row renderer (csv/tsv dialect, pickle
    protocol, text template, html), header flag, prologue and epilogue -/
theorem tee_bytes_eq_to (render : Row → Bytes) (wh : Bool) (pro epi : Bytes) (t : Table) (hne : t ≠ []) :
    (teeRun render wh pro epi t).2 = toBytes render wh pro epi t := by
  cases t with
  | nil => exact absurd rfl hne
  | cons h r => simp [teeRun, teeAfter, toBytes]

/-- while it is being consumed the sink never holds anything but a prefix of that output -/
theorem tee_partial_is_prefix (render : Row → Bytes) (wh : Bool) (pro : Bytes) (t : Table) (k : Nat) :
    ∃ rest, toBytes render wh pro [] t = (teeAfter render wh pro t k).2 ++ rest := by
  -- the rows rendered after k steps are a prefix (`take`) of the rows `to*` renders
  refine ⟨((if wh then t.drop k else (t.drop 1).drop (k - 1)).flatMap render), ?_⟩
  simp only [toBytes, teeAfter, List.append_nil, List.append_assoc]
  cases wh <;> simp only [Bool.false_eq_true, if_false, if_true, List.drop_take, ← List.flatMap_append,
    List.take_append_drop]

/-- progress / log_progress / clock / wrap hand every row through unchanged: they are views without
    shared state over the same rows (C01's pure machine), so every pass yields the wrapped table -/
theorem passthrough_id (rows : List Row) : C01.Independent (pureMachine rows) rows :=
  C01.pureView_independent rows

/-- cache(n): every iterator, under every schedule and every limit n, receives a prefix of the
    wrapped table and is never stopped early — a completed pass yields exactly its rows -/
theorem cacheView_rows_id (inner : List Row) (n : Option Nat) :
    C01.Independent (cacheMachine true inner n) inner := C01.cacheView_independent inner n

/-! non-vacuity -/
example : (teeRun (fun r => [r.length]) false [7] [9] [[.none], [.none, .none], []]).2 = [7, 2, 0, 9] := by decide

end Petl.C16
