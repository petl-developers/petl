/-
  C06 — sort-merge joins implement the relational join operators exactly.

  `L R` are the data rows of the two tables (squared up by `stackRows`), `idx` the key indices.
  The pipeline of `joinView` is: sort both sides by key (C05, any buffer size), form key groups
  (`groups` = itertools.groupby), run the merge loop (`mergeGroups`/`antiGroups`/`lookupGroups`).
-/
import PetlProofs.Join

namespace Petl.C06

/-- one side as the merge loop reads it: `itertools.groupby` over the table sorted by the key
    (the same list as `sortedGroups idx bs rows` of Petl/Group.lean, by definition) -/
def sideGroups (idx : List Nat) (bs : Option Nat) (rows : List Row) : List (Val × List Row) :=
  groups (getKey idx) (sortRows (rowLe idx false) bs rows)

section merge
variable (ops : JoinOps) (lidx ridx : List Nat) (bs : Option Nat) (hbs : ∀ b, bs = some b → 1 ≤ b)
include hbs

/-- join: exactly the nested-loop join of the two key-sorted inputs — one output row for every
    pair of a left and a right row with equal keys, left-major, groups in ascending key order -/
theorem join_eq_nested_loop (L R : List Row) :
    mergeGroups ops false false (sideGroups lidx bs L) (sideGroups ridx bs R)
      = nlInner ops (getKey lidx) (getKey ridx)
          (sortRows (rowLe lidx false) bs L) (sortRows (rowLe ridx false) bs R) :=
  mergeGroups_inner ops (sortRows_sorted lidx bs hbs L) (sortRows_sorted ridx bs hbs R)

/-- leftjoin: each left row (in key order) followed by its partners, or padded once if it has none -/
theorem leftjoin_eq_nested_loop (L R : List Row) :
    mergeGroups ops true false (sideGroups lidx bs L) (sideGroups ridx bs R)
      = nlLeft ops (getKey lidx) (getKey ridx)
          (sortRows (rowLe lidx false) bs L) (sortRows (rowLe ridx false) bs R) :=
  mergeGroups_left ops (sortRows_sorted lidx bs hbs L) (sortRows_sorted ridx bs hbs R)

/-- antijoin: exactly the left rows (in key order) that have no partner -/
theorem antijoin_eq_filter (L R : List Row) :
    antiGroups (sideGroups lidx bs L) (sideGroups ridx bs R)
      = unmatchedL (getKey lidx) (getKey ridx)
          (sortRows (rowLe lidx false) bs L) (sortRows (rowLe ridx false) bs R) :=
  antiGroups_eq_unmatchedL (sortRows_sorted lidx bs hbs L) (sortRows_sorted ridx bs hbs R)

/-- lookupjoin: each left row paired with its first partner only (or padded) -/
theorem lookupjoin_eq_first_partner (L R : List Row) :
    lookupGroups ops (sideGroups lidx bs L) (sideGroups ridx bs R)
      = nlLookup ops (getKey lidx) (getKey ridx)
          (sortRows (rowLe lidx false) bs L) (sortRows (rowLe ridx false) bs R) :=
  lookupGroups_eq_nlLookup ops (sortRows_sorted lidx bs hbs L) (sortRows_sorted ridx bs hbs R)

/-- all four outer flags: the output is, as a multiset, the inner join plus (leftouter) every
    unmatched left row padded plus (rightouter) every unmatched right row padded — each row with
    exactly the right multiplicity -/
theorem outerjoin_perm (lo ro : Bool) (L R : List Row) :
    (mergeGroups ops lo ro (sideGroups lidx bs L) (sideGroups ridx bs R)).Perm
      (nlInner ops (getKey lidx) (getKey ridx) L R
        ++ (if lo then (unmatchedL (getKey lidx) (getKey ridx) L R).map ops.padL else [])
        ++ (if ro then (unmatchedL (getKey ridx) (getKey lidx) R L).map ops.padR else [])) := by
  refine (mergeGroups_perm ops lo ro (sortRows_sorted lidx bs hbs L) (sortRows_sorted ridx bs hbs R)).trans ?_
  simp only [← perLeft_fAnti]
  refine ((perLeft_sorted (fInner ops) lidx ridx bs hbs L R).symm.append ?_).append ?_
  · cases lo
    · exact .refl _
    · exact (perLeft_sorted fAnti lidx ridx bs hbs L R).symm.map _
  · cases ro
    · exact .refl _
    · exact (perLeft_sorted fAnti ridx lidx bs hbs R L).symm.map _

/-- join in relational terms, independent of any sorting: a permutation of the nested-loop join of
    the *original* inputs (equal keys ⇒ one row per pair, None equal to None via `Val.eq`) -/
theorem join_relational (L R : List Row) :
    (mergeGroups ops false false (sideGroups lidx bs L) (sideGroups ridx bs R)).Perm
      (nlInner ops (getKey lidx) (getKey ridx) L R) := by
  simpa using outerjoin_perm ops lidx ridx bs hbs false false L R

end merge

/-- None keys match None keys (and nothing else) -/
theorem none_key_matches_none : Val.eq .none .none = true ∧ ∀ v, Val.eq .none v = true → v = .none := by
  refine ⟨rfl, ?_⟩
  intro v; cases v <;> simp [Val.eq]

/-! ### crossjoin: the cartesian product of the squared-up tables, left-major -/

/-- the view: concatenated headers, then the cross product of the data rows squared up to their own header -/
theorem crossjoin_view (missing : Val) (ts : List Table) :
    crossJoinView missing ts = .ok ((ts.map (fun t => t.headD [])).flatten ::
      crossProduct (ts.map (fun t => stackRows (t.headD []).length missing (t.drop 1)))) := rfl

/-- crossjoin of two tables: every left row paired with every right row, left-major -/
theorem crossjoin_two (a b : List Row) :
    crossProduct [a, b] = a.flatMap (fun r => b.map (fun s => r ++ s)) := by
  simp [crossProduct]

/-- the number of output rows is the product of the tables' row counts -/
theorem crossjoin_count : ∀ ts : List (List Row),
    (crossProduct ts).length = (ts.map List.length).foldr (· * ·) 1
  | [] => rfl
  | t :: ts => by
    simp [crossProduct, crossjoin_count ts, List.map_const']

/-- more than two tables: the first table crossed with the cross product of the others -/
theorem crossjoin_assoc (t : List Row) (ts : List (List Row)) :
    crossProduct (t :: ts) = crossProduct [t, crossProduct ts] := by
  simp [crossProduct]

/-- position by position (hence order and multiplicity): output row `i * |b| + j` is row `i` of `a`
    followed by row `j` of `b` -/
theorem crossjoin_two_getElem : ∀ (a b : List Row) (i j : Nat) (hi : i < a.length) (hj : j < b.length),
    (crossProduct [a, b])[i * b.length + j]? = some (a[i] ++ b[j])
  | r :: a, b, 0, j, _, hj => by
    rw [crossjoin_two, List.flatMap_cons, List.getElem?_append_left (by simpa using hj)]
    simp [hj]
  | r :: a, b, i + 1, j, hi, hj => by
    -- `(i + 1) * |b| + j = i * |b| + j + |b|`: past the block of `r`
    rw [crossjoin_two, List.flatMap_cons, Nat.succ_mul, Nat.add_right_comm,
      List.getElem?_append_right (by simp), List.length_map, Nat.add_sub_cancel, ← crossjoin_two]
    exact crossjoin_two_getElem a b i j (Nat.lt_of_succ_lt_succ hi) hj

/-- an output row is exactly a concatenation of one row of each table, in table order -/
theorem mem_crossjoin_iff : ∀ (ts : List (List Row)) (x : Row),
    x ∈ crossProduct ts ↔ ∃ choice : List Row, choice.length = ts.length ∧
      (∀ i (h : i < choice.length) (h' : i < ts.length), choice[i] ∈ ts[i]) ∧ x = choice.flatten
  | [], x => by
    simp only [crossProduct, List.mem_singleton, List.length_nil, List.length_eq_zero_iff]
    exact ⟨fun h => ⟨[], rfl, nofun, h⟩, fun ⟨c, hc, _, hx⟩ => by rw [hx, hc]; rfl⟩
  | t :: ts, x => by
    simp only [crossProduct, List.mem_flatMap, List.mem_map, mem_crossjoin_iff ts]
    constructor
    · rintro ⟨r, hr, _, ⟨c, hc, hmem, rfl⟩, rfl⟩
      refine ⟨r :: c, congrArg (· + 1) hc, fun i h h' => ?_, rfl⟩
      cases i with
      | zero => exact hr
      | succ i => exact hmem i (Nat.lt_of_succ_lt_succ h) (Nat.lt_of_succ_lt_succ h')
    · rintro ⟨_ | ⟨r, c⟩, hc, hmem, rfl⟩
      · simp at hc
      · exact ⟨r, hmem 0 (Nat.succ_pos _) (Nat.succ_pos _), c.flatten, ⟨c, Nat.succ.inj hc,
          fun i h h' => hmem (i + 1) (Nat.succ_lt_succ h) (Nat.succ_lt_succ h'), rfl⟩, rfl⟩

/-! non-vacuity: the hypothesis on the buffer size is satisfiable; a None key meets a None key of the
    other table; a cross product of three tables with ragged rows -/
example : (∀ b, (some 2 : Option Nat) = some b → 1 ≤ b) := by intro b h; cases h; omega
example : Val.eq (getKey [0] [.none, .str [97]]) (getKey [1] [.str [98], .none]) = true := by decide
example : (crossProduct [[[Val.none], [Val.none, Val.none]], [[Val.none, Val.none]], [[], [Val.none]]]).length = 4 := by decide

end Petl.C06
