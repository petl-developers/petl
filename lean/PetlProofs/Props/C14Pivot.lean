/-
  C14 — pivot: cell (r, c) is the aggregate of exactly the rows carrying that pair of values.

  pivot sorts by the key (f1, f2), then groups by `f1` alone and each group by `f2` alone.  Rows in the
  composite order are in the order of their `f1` cells (`lex_first`), and those with equal `f1` cells in
  the order of their `f2` cells (`lex_second`): `Val.leList_cons`, once and twice.  The rows carrying a
  given pair of cell values are a key class of the composite key (`eq_pairKey`).
-/
import Petl.Reshape
import PetlProofs.Group

namespace Petl.Pivot

theorem lex_first (f1 f2 : Nat) (a b : Row)
    (h : Val.lt (getKey [f1, f2] b) (getKey [f1, f2] a) = false) :
    Val.lt (getCell b f1) (getCell a f1) = false :=
  ((Val.leList_cons ..).1 h).1

theorem lex_second (f1 f2 : Nat) (a b : Row)
    (h : Val.lt (getKey [f1, f2] b) (getKey [f1, f2] a) = false)
    (he : Val.eq (getCell b f1) (getCell a f1) = true) :
    Val.lt (getCell b f2) (getCell a f2) = false :=
  ((Val.leList_cons ..).1 (((Val.leList_cons ..).1 h).2 he)).1

theorem eq_pairKey (f1 f2 : Nat) (r : Row) (a b : Val) :
    Val.eq (getKey [f1, f2] r) (.seq false [a, b]) = (Val.eq (getCell r f1) a && Val.eq (getCell r f2) b) := by
  simp only [getKey, List.map, Val.eq_seq, Val.eqList, Bool.and_true]

end Petl.Pivot

namespace Petl.C14
open Petl.Pivot

/-- `pivot`: the rows of the table are first split by the value of `f1` (one output row each, ascending), each
    block then by the value of `f2`; the block for the pair (g1, g2) is exactly the input rows carrying that pair
    of values, in input order — whatever the buffer size of the sort. -/
theorem pivot_blocks (f1 f2 : Nat) (bs : Option Nat) (hbs : ∀ b, bs = some b → 1 ≤ b) (rows : List Row) :
    let sorted := sortRows (rowLe [f1, f2] false) bs rows
    let outer := groups (fun r => getCell r f1) sorted
    flattenG outer = sorted ∧ GroupsWF (fun r => getCell r f1) outer ∧
    ∀ g1 ∈ outer,
      g1.2 = sorted.filter (fun r => Val.eq (getCell r f1) g1.1) ∧
      GroupsWF (fun r => getCell r f2) (groups (fun r => getCell r f2) g1.2) ∧
      flattenG (groups (fun r => getCell r f2) g1.2) = g1.2 ∧
      ∀ g2 ∈ groups (fun r => getCell r f2) g1.2,
        g2.2 ≠ [] ∧
        g2.2 = rows.filter (fun r => Val.eq (getCell r f1) g1.1 && Val.eq (getCell r f2) g2.1) := by
  intro sorted outer
  have hs := sortRows_sorted [f1, f2] bs hbs rows
  have hs1 := hs.imp (lex_first f1 f2 _ _)
  have hwf := (groups_spec (fun r => getCell r f1) sorted hs1).1
  refine ⟨flattenG_groups _ _, hwf, fun g1 hg1 => ?_⟩
  have hg1f := group_eq_filter_of_sorted hs1 hg1
  -- the rows of a block have equal `f1` cells, so they are in the order of their `f2` cells
  have hs2 : g1.2.Pairwise (fun a b => Val.lt (getCell b f2) (getCell a f2) = false) :=
    (hs.sublist (hg1f ▸ List.filter_sublist)).imp_of_mem fun ha hb h =>
      lex_second f1 f2 _ _ h ((Val.eq_congr_right _ _ _ (hwf.keyed g1 hg1 _ ha)).trans (hwf.keyed g1 hg1 _ hb))
  obtain ⟨hwf2, hne2⟩ := groups_spec (fun r => getCell r f2) g1.2 hs2
  refine ⟨hg1f, hwf2, flattenG_groups _ _, fun g2 hg2 => ⟨hne2 g2 hg2, ?_⟩⟩
  rw [group_eq_filter_of_sorted hs2 hg2, hg1f, List.filter_filter]
  -- carrying the pair (g1.1, g2.1) is having a key equal to it: a key class, which the sort leaves in input order
  simp only [Bool.and_comm (Val.eq _ g2.1), ← eq_pairKey]
  exact sortRows_filter_key [f1, f2] bs hbs rows _

/-- `pivot`'s cell for the output row of `g1` and the column value `v2`: `missing` when no row of the block carries a
    value equal to `v2`, otherwise the aggregate of exactly the input rows carrying the pair, in input order -/
theorem pivot_cell (f1 f2 f3 : Nat) (agg : AggFn) (missing : Val) (bs : Option Nat)
    (hbs : ∀ b, bs = some b → 1 ≤ b) (rows : List Row) (g1 : Val × List Row)
    (hg1 : g1 ∈ groups (fun r => getCell r f1) (sortRows (rowLe [f1, f2] false) bs rows)) (v2 : Val) :
    (match (groups (fun r => getCell r f2) g1.2).find? (fun g2 => Val.pyEq g2.1 v2) with
      | none => Except.ok missing
      | some g2 => agg.apply (g2.2.map (fun r => getCell r f3)))
    = (match (groups (fun r => getCell r f2) g1.2).find? (fun g2 => Val.pyEq g2.1 v2) with
      | none => Except.ok missing
      | some g2 => agg.apply ((rows.filter (fun r => Val.eq (getCell r f1) g1.1 && Val.eq (getCell r f2) g2.1)).map
          (fun r => getCell r f3))) := by
  obtain ⟨_, _, h⟩ := pivot_blocks f1 f2 bs hbs rows
  obtain ⟨_, _, _, hcell⟩ := h g1 hg1
  split
  next => rfl
  next g2 hf => rw [← (hcell g2 (List.mem_of_find?_eq_some hf)).2]

/-- the whole of `pivot`'s data rows: one row per value of `f1` (ascending), whose cell under the column value `v2` is
    `missing` or the aggregate of exactly the input rows carrying the pair, in input order -/
theorem pivotRows_spec (f1 f2 f3 : Nat) (f2vals : List Val) (agg : AggFn) (missing : Val) (bs : Option Nat)
    (hbs : ∀ b, bs = some b → 1 ≤ b) (rows : List Row) :
    pivotRows f1 f2 f3 f2vals agg missing bs rows =
      mapGroups (fun g1 => do
        let cells ← f2vals.mapM (fun v2 =>
          match (groups (fun r => getCell r f2) g1.2).find? (fun g2 => Val.pyEq g2.1 v2) with
          | none => Except.ok missing
          | some g2 => agg.apply ((rows.filter (fun r => Val.eq (getCell r f1) g1.1 && Val.eq (getCell r f2) g2.1)).map
              (fun r => getCell r f3)))
        pure (g1.1 :: cells))
      (groups (fun r => getCell r f1) (sortRows (rowLe [f1, f2] false) bs rows)) := by
  apply mapGroups_congr
  intro g1 hg1
  dsimp only
  congr 2
  funext v2
  exact pivot_cell f1 f2 f3 agg missing bs hbs rows g1 hg1 v2

example : (pivotRows 0 1 2 [.str [112], .str [113]] .sum .none (some 1)
    [[.str [122], .str [113], intVal 2], [.str [120], .str [112], intVal 1], [.str [122], .str [113], intVal 5]]).1.length
    = 2 := by decide +kernel
end Petl.C14
