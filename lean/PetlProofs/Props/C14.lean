/-
  C14 — reshape operators are mutually inverse and cell-exact.
-/
import Petl.Reshape
import PetlProofs.RecastMelt

namespace Petl.C14

/-- the pad values `d`, `d'` are never read on a rectangular table: transpose uses this with `None`, fromcolumns
    with `missing` -/
theorem columnsOf_columnsOf (w : Nat) (d d' : Val) (rows : List Row) (hrect : ∀ r ∈ rows, r.length = w) :
    columnsOf rows.length d' (columnsOf w d rows) = rows := by
  apply List.ext_getElem
  · rw [columnsOf, List.length_map, List.length_range]
  · intro i h1 h2
    have hrow := hrect _ (List.getElem_mem h2)
    apply List.ext_getElem
    · simp only [columnsOf, List.getElem_map, List.length_map, List.length_range, hrow]
    · intro j h3 h4
      simp only [columnsOf, padGet, List.getElem_map, List.getElem_range, List.getD_eq_getElem?_getD, List.getElem?_map,
        List.getElem?_eq_getElem h2, List.getElem?_eq_getElem h4, Option.map_some, Option.getD_some]

theorem transposeT_eq_columnsOf (t : Table) (w : Nat) (hne : t ≠ []) (hrect : ∀ r ∈ t, r.length = w) :
    transposeT t = columnsOf w .none t := by
  obtain ⟨h, rs, rfl⟩ := List.exists_cons_of_ne_nil hne
  rw [transposeT, List.headD_cons, hrect h List.mem_cons_self]
  rfl

/-- transpose is an involution on rectangular tables (every row, header included, of width w > 0) -/
theorem transpose_involutive (t : Table) (w : Nat) (hw : 0 < w) (hne : t ≠ [])
    (hrect : ∀ r ∈ t, r.length = w) : transposeT (transposeT t) = t := by
  -- the transposed table is rectangular again: `w` rows of width `t.length`
  rw [transposeT_eq_columnsOf t w hne hrect, transposeT_eq_columnsOf _ t.length]
  · exact columnsOf_columnsOf w .none .none t hrect
  · simp [columnsOf, Nat.ne_of_gt hw]
  · exact List.forall_mem_map.2 fun _ _ => List.length_map _

theorem unflattenLoop_fill (n : Nat) (m : Val) (pre suf X : List Val) (h : (pre ++ suf).length ≤ n) :
    unflattenLoop n m pre (suf ++ X) = unflattenLoop n m (pre ++ suf) X := by
  induction suf generalizing pre with
  | nil => rw [List.nil_append, List.append_nil]
  | cons v suf ih =>
    have hlt : pre.length < n := Nat.lt_of_lt_of_le (by simp) h
    rw [List.append_cons] at h ⊢
    rw [List.cons_append, unflattenLoop, if_pos hlt, ih _ h]

theorem unflattenLoop_full (n : Nat) (hn : 0 < n) (m : Val) (rows : List Row) (hr : ∀ r ∈ rows, r.length = n)
    (cur : Row) (hc : cur.length = n) : unflattenLoop n m cur rows.flatten = cur :: rows := by
  induction rows generalizing cur with
  | nil => simp [unflattenLoop, List.ne_nil_of_length_pos (hc ▸ hn), hc]
  | cons r rs ih =>
    obtain ⟨hrn, hrs⟩ := List.forall_mem_cons.1 hr
    obtain ⟨v, r', rfl⟩ := List.exists_cons_of_length_pos (hrn ▸ hn)
    rw [List.flatten_cons, List.cons_append, unflattenLoop, if_neg (hc ▸ Nat.lt_irrefl n),
      unflattenLoop_fill n m [v] r' _ (Nat.le_of_eq hrn)]
    exact congrArg _ (ih hrs _ hrn)

/-- unflatten(flatten(t), n) reproduces the data rows of an n-field table -/
theorem unflatten_flatten (n : Nat) (hn : 0 < n) (m : Val) (rows : List Row) (hrect : ∀ r ∈ rows, r.length = n) :
    unflattenRows n m (flattenVals rows) = rows := by
  cases rows with
  | nil => rfl
  | cons r rs =>
    obtain ⟨hrn, hrs⟩ := List.forall_mem_cons.1 hrect
    rw [unflattenRows, flattenVals, List.flatten_cons, unflattenLoop_fill n m [] r _ (Nat.le_of_eq hrn)]
    exact unflattenLoop_full n hn m rs hrs r hrn

/-- on rows that have all the selected cells, melt emits exactly one row per (row, variable) cell
    (the key cells, the variable's name, the cell: `RecastMelt.molten_eq_melt`) -/
theorem melt_row_count (kidx : List Nat) (vars : List (Nat × Val)) (rows : List Row)
    (hk : ∀ r ∈ rows, ∀ i ∈ kidx, i < r.length) (hv : ∀ r ∈ rows, ∀ p ∈ vars, p.1 < r.length) :
    (meltRows kidx vars rows).1.length = rows.length * vars.length ∧ (meltRows kidx vars rows).2 = none := by
  rw [RecastMelt.molten_eq_melt kidx vars rows hk hv]
  exact ⟨by simp [RecastMelt.molten, List.map_const'], rfl⟩

/-- each output row of recast is the key cells of the first row of one key group followed, per variable (in the
    order of `variables`: in petl the names found in the data, sorted), by the value(s) of exactly the rows of that
    group carrying that variable -/
theorem recast_cell (kidx : List Nat) (vari vali : Nat) (variables : List Val) (missing : Val)
    (bs : Option Nat) (rows : List Row) :
    (recastRows kidx vari vali variables missing bs rows).length = (sortedGroups kidx bs rows).length ∧
    ∀ out ∈ recastRows kidx vari vali variables missing bs rows, ∃ g ∈ sortedGroups kidx bs rows,
      out = (match g.2 with | r :: _ => kidx.map (getCell r) | [] => []) ++
        variables.map (fun v =>
          match (g.2.filter (fun r => Val.pyEq (getCell r vari) v)).map (fun r => getCell r vali) with
          | [] => missing | [x] => x | xs => .seq true xs) :=
  ⟨List.length_map _, List.forall_mem_map.2 fun g hg => ⟨g, hg, rfl⟩⟩

/-! ### unpack, capture/split, splitdown leave the other fields unchanged -/

theorem unpack_frame (fi n : Nat) (m : Val) (r : Row) (l : Bool) (xs : List Val)
    (hfi : fi < r.length) (hc : getCell r fi = .seq l xs) :
    unpackRow fi n true m r = .ok (r ++ (if n = 0 then [] else xs.take n ++ List.replicate (n - xs.length) m)) ∧
    unpackRow fi n false m r =
      .ok (r.eraseIdx fi ++ (if n = 0 then [] else xs.take n ++ List.replicate (n - xs.length) m)) := by
  by_cases hn : n = 0 <;> simp [unpackRow, Nat.not_le.2 hfi, hc, hn]

theorem expand_frame (fi : Nat) (r : Row) (parts : List Val) :
    expandRow fi true r parts = r ++ parts ∧ expandRow fi false r parts = r.eraseIdx fi ++ parts := ⟨rfl, rfl⟩

theorem splitdown_frame (w fi : Nat) (r : Row) (parts : List Val) :
    (splitdownRow w fi r parts).length = parts.length ∧
    ∀ (k : Nat) (p : Val), parts[k]? = some p → ∃ out : Row, (splitdownRow w fi r parts)[k]? = some out ∧ out.length = w ∧
      ∀ i, i < w → out[i]? = some (if i = fi then p else getCell r i) := by
  refine ⟨List.length_map _, fun k p hp =>
    ⟨(List.range w).map (fun i => if i = fi then p else getCell r i), ?_, ?_, fun i hi => ?_⟩⟩
  · rw [splitdownRow, List.getElem?_map, hp]; rfl
  · exact (List.length_map _).trans List.length_range
  · rw [List.getElem?_map, List.getElem?_range hi]; rfl

/-- fromcolumns(columns(t)) reproduces the data rows of a rectangular table (w > 0 fields) -/
theorem fromcolumns_columns (w : Nat) (hw : 0 < w) (m : Val) (rows : List Row) (hrect : ∀ r ∈ rows, r.length = w) :
    fromColumnsRows m (columnsOf w m rows) = rows := by
  -- the longest column: each of the `w` columns has `rows.length` cells
  have hn : ((columnsOf w m rows).map List.length).foldl max 0 = rows.length := by
    simp only [columnsOf, List.map_map, Function.comp_def, List.length_map, List.map_const', List.length_range]
    rw [List.foldl_max, List.max?_replicate_of_pos hw, Option.getD_some, Nat.zero_max]
  rw [fromColumnsRows, hn]
  exact columnsOf_columnsOf w m m rows hrect

/-! non-vacuity -/
example : transposeT [[.str [97], .str [98]], [.num .int (.fin 1), .none]]
    = [[.str [97], .num .int (.fin 1)], [.str [98], .none]] := rfl

end Petl.C14
