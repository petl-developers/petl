/-
  C07 — hash joins and lookups agree with the sort-merge joins.
  What the dictionaries return is in PetlProofs/HashJoin.lean. The hash joins are the nested-loop
  joins over the unsorted tables, the merge joins (C06) the same over the sorted ones; a stable
  sort leaves every key class as it was (`sortRows_filter_key`, PetlProofs/Sort.lean), so the two
  differ only in the order of the streamed side (`perLeft_sorted`, PetlProofs/Join.lean).
-/
import PetlProofs.HashJoin
import PetlProofs.Props.C06

namespace Petl.C07

variable {β : Type}

/-- lookup / dictlookup / recordlookup: each key ↦ the values of exactly its rows, in table order;
    a key that does not occur is absent -/
theorem lookup_spec (key : Row → Val) (value : Row → β) (rows : List Row) (k : Val) :
    Dict.get (buildLookup key value rows) k =
      (if (rows.filter (fun r => Val.eq (key r) k)).isEmpty then none
       else some ((rows.filter (fun r => Val.eq (key r) k)).map value)) :=
  lookupFold_get key value k rows []

/-- the *one variants (non-strict): each key ↦ the value of its first row; never an error -/
theorem lookupone_spec (key : Row → Val) (value : Row → β) (rows : List Row) :
    ∃ d, buildLookupOne key value false rows [] = .ok d ∧
      ∀ k, Dict.get d k = (rows.find? (fun r => Val.eq (key r) k)).map value := by
  cases h : buildLookupOne key value false rows [] with
  | error e => exact absurd ((buildLookupOne_error key value false e rows []).1 h).1 (by decide)
  | ok d =>
    refine ⟨d, rfl, fun k => ?_⟩
    rw [buildLookupOne_get key value false rows [] d h, List.nil_append, Dict.get_map]

/-- strict=True raises DuplicateKeyError exactly when a key repeats -/
theorem strict_raises_iff_dup (key : Row → Val) (value : Row → β) (rows : List Row) :
    (buildLookupOne key value true rows [] = .error .duplicateKey) ↔
      ¬ rows.Pairwise (fun a b => Val.eq (key a) (key b) = false) := by
  simp [buildLookupOne_error, Dict.contains]

/-- hashjoin emits, for each left row in the order of the left table, its partners in the order
    of the right table: exactly the nested-loop join -/
theorem hashjoin_eq_nested_loop (ops : JoinOps) (kl kr) (L R : List Row) :
    hashInner ops kl kr L R = nlInner ops kl kr L R := by
  simp only [hashInner, lookup_spec, List.map_id, Val.eq_symm (kr _)]
  congr 1; funext l
  cases R.filter (fun r => Val.eq (kl l) (kr r)) <;> rfl

theorem hashleftjoin_eq_nested_loop (ops : JoinOps) (kl kr) (L R : List Row) :
    hashLeft ops kl kr L R = nlLeft ops kl kr L R := by
  simp only [hashLeft, nlLeft, lookup_spec, List.map_id, Val.eq_symm (kr _)]
  congr 1; funext l
  cases (R.filter (fun r => Val.eq (kl l) (kr r))).isEmpty <;> rfl

theorem hashantijoin_eq_filter (kl kr) (L R : List Row) :
    hashAnti kl kr L R = L.filter (fun l => !(R.any (fun r => Val.eq (kl l) (kr r)))) := by
  simp only [hashAnti, List.any_map, Function.comp_def, Val.eq_symm (kr _)]

theorem hashlookupjoin_eq_first (ops : JoinOps) (kl kr) (L R : List Row) :
    hashLookup ops kl kr L R = nlLookup ops kl kr L R := by
  obtain ⟨d, hd, hg⟩ := lookupone_spec kr id R
  simp only [hashLookup, hd, hg, Option.map_id, Val.eq_symm (kr _)]
  rfl

/-! ### the same multiset of rows as the sort-merge joins (any buffer size of the merge join's sorts) -/

/-- the first partner of a key in a table does not change when the table is stably sorted by that key -/
theorem find_first_partner_sorted (ridx : List Nat) (bs : Option Nat) (hbs : ∀ b, bs = some b → 1 ≤ b)
    (R : List Row) (k : Val) :
    (sortRows (rowLe ridx false) bs R).find? (fun r => Val.eq k (getKey ridx r))
      = R.find? (fun r => Val.eq k (getKey ridx r)) := by
  simp only [← List.head?_filter, Val.eq_symm k, sortRows_filter_key ridx bs hbs R k]

theorem hashjoin_perm_join (ops : JoinOps) (lidx ridx : List Nat) (bs : Option Nat)
    (hbs : ∀ b, bs = some b → 1 ≤ b) (L R : List Row) :
    (hashInner ops (getKey lidx) (getKey ridx) L R).Perm
      (mergeGroups ops false false (C06.sideGroups lidx bs L) (C06.sideGroups ridx bs R)) := by
  rw [hashjoin_eq_nested_loop, C06.join_eq_nested_loop ops lidx ridx bs hbs L R]
  exact perLeft_sorted (fInner ops) lidx ridx bs hbs L R

theorem hashleftjoin_perm_leftjoin (ops : JoinOps) (lidx ridx : List Nat) (bs : Option Nat)
    (hbs : ∀ b, bs = some b → 1 ≤ b) (L R : List Row) :
    (hashLeft ops (getKey lidx) (getKey ridx) L R).Perm
      (mergeGroups ops true false (C06.sideGroups lidx bs L) (C06.sideGroups ridx bs R)) := by
  rw [hashleftjoin_eq_nested_loop, C06.leftjoin_eq_nested_loop ops lidx ridx bs hbs L R]
  exact perLeft_sorted (fLeft ops) lidx ridx bs hbs L R

theorem hashantijoin_perm_antijoin (lidx ridx : List Nat) (bs : Option Nat)
    (hbs : ∀ b, bs = some b → 1 ≤ b) (L R : List Row) :
    (hashAnti (getKey lidx) (getKey ridx) L R).Perm
      (antiGroups (C06.sideGroups lidx bs L) (C06.sideGroups ridx bs R)) := by
  rw [hashantijoin_eq_filter, C06.antijoin_eq_filter lidx ridx bs hbs L R, ← unmatchedL,
    ← perLeft_fAnti, ← perLeft_fAnti]
  exact perLeft_sorted fAnti lidx ridx bs hbs L R

/-- hashlookupjoin pairs every left row with the same partner as the sort-merge lookupjoin, hence the
    same multiset of rows -/
theorem hashlookupjoin_perm_lookupjoin (ops : JoinOps) (lidx ridx : List Nat) (bs : Option Nat)
    (hbs : ∀ b, bs = some b → 1 ≤ b) (L R : List Row) :
    (hashLookup ops (getKey lidx) (getKey ridx) L R).Perm
      (lookupGroups ops (C06.sideGroups lidx bs L) (C06.sideGroups ridx bs R)) := by
  rw [hashlookupjoin_eq_first, C06.lookupjoin_eq_first_partner ops lidx ridx bs hbs L R,
    ← perLeft_fLookup, ← perLeft_fLookup]
  exact perLeft_sorted (fLookup ops) lidx ridx bs hbs L R

/-- hashrightjoin: each right row (in right-table order) with its partners in left-table order, or padded -/
theorem hashrightjoin_eq_nested_loop (ops : JoinOps) (kl kr) (L R : List Row) :
    hashRight ops kl kr L R = nlRight ops kl kr L R := by
  simp only [hashRight, nlRight, lookup_spec, List.map_id]
  congr 1; funext r
  cases (L.filter (fun l => Val.eq (kl l) (kr r))).isEmpty <;> rfl

theorem hashrightjoin_perm_rightjoin (ops : JoinOps) (lidx ridx : List Nat) (bs : Option Nat)
    (hbs : ∀ b, bs = some b → 1 ≤ b) (L R : List Row) :
    (hashRight ops (getKey lidx) (getKey ridx) L R).Perm
      (mergeGroups ops false true (C06.sideGroups lidx bs L) (C06.sideGroups ridx bs R)) := by
  rw [hashrightjoin_eq_nested_loop]
  refine (nlRight_perm ops _ _ L R).trans ?_
  simpa using (C06.outerjoin_perm ops lidx ridx bs hbs false true L R).symm

/-! non-vacuity: a key class with two rows whose keys are equal across number types -/
example : ([[Val.num .int (.fin 1), .str [97]], [.num .float (.fin 1), .str [98]]].filter
    (fun r => Val.eq (getKey [0] r) (.num .bool (.fin 1)))).length = 2 := by decide
example : ¬ [[Val.num .int (.fin 1)], [.num .float (.fin 1)]].Pairwise
    (fun a b => Val.eq (getKey [0] a) (getKey [0] b) = false) := by decide

end Petl.C07
