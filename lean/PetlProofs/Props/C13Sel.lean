/-
  C13, tie by translation: the lambda that each `select*` function of petl/transform/selects.py passes to
  `select` (regenerated from the source on every run as `Petl.Gen.selectors`) is the expected expression, and
  each expected expression evaluates — under Python's rules for comparing raw values with `Comparable`
  operands — to the predicate the model uses for that selector.
-/
import Petl.Gen.Selectors
import Petl.Select

namespace Petl.C13
open Petl.Gen

/-- what the selectors are expected to look like (hand-written) -/
def expectedSelectors : List (String × Nat × SExpr) := [
  ("selecteq", 1, .cmp (.cell false) .eq (.ref 0 false)),
  ("selectne", 1, .cmp (.cell false) .ne (.ref 0 false)),
  ("selectlt", 1, .cmp (.cell false) .lt (.ref 0 true)),
  ("selectle", 1, .cmp (.cell false) .le (.ref 0 true)),
  ("selectgt", 1, .cmp (.cell false) .gt (.ref 0 true)),
  ("selectge", 1, .cmp (.cell false) .ge (.ref 0 true)),
  ("selectcontains", 1, .unsupported "contains"),
  ("selectin", 1, .isIn 0),
  ("selectnotin", 1, .notIn 0),
  ("selectis", 1, .unsupported "is_"),
  ("selectisnot", 1, .unsupported "is_not"),
  ("selectisinstance", 1, .unsupported "isinstance"),
  ("selectrangeopenleft", 2, .chain (.ref 0 true) .le (.cell false) .lt (.ref 1 true)),
  ("selectrangeopenright", 2, .chain (.ref 0 true) .lt (.cell false) .le (.ref 1 true)),
  ("selectrangeopen", 2, .chain (.ref 0 true) .le (.cell false) .le (.ref 1 true)),
  ("selectrangeclosed", 2, .chain (.ref 0 true) .lt (.cell true) .lt (.ref 1 true)),
  ("selecttrue", 0, .truthy),
  ("selectfalse", 0, .notTruthy),
  ("selectnone", 0, .isNone),
  ("selectnotnone", 0, .isNotNone)]

/-- the selectors of the current source are the expected ones (re-checked on every run) -/
theorem selectors_as_expected : selectors = expectedSelectors := rfl

/-! each expected expression is the model's predicate, for all reference values and all cells: with the
    wrapping flags and the reference list given, `SExpr.eval` unfolds to the very term `Pred.eval` is defined as -/

theorem selecteq_sem (r v : Val) : (SExpr.cmp (.cell false) .eq (.ref 0 false)).eval [r] v = some ((Pred.eq r).eval v) := rfl
theorem selectne_sem (r v : Val) : (SExpr.cmp (.cell false) .ne (.ref 0 false)).eval [r] v = some ((Pred.ne r).eval v) := rfl
theorem selectlt_sem (r v : Val) : (SExpr.cmp (.cell false) .lt (.ref 0 true)).eval [r] v = some ((Pred.lt r).eval v) := rfl
theorem selectle_sem (r v : Val) : (SExpr.cmp (.cell false) .le (.ref 0 true)).eval [r] v = some ((Pred.le r).eval v) := rfl
theorem selectgt_sem (r v : Val) : (SExpr.cmp (.cell false) .gt (.ref 0 true)).eval [r] v = some ((Pred.gt r).eval v) := rfl
theorem selectge_sem (r v : Val) : (SExpr.cmp (.cell false) .ge (.ref 0 true)).eval [r] v = some ((Pred.ge r).eval v) := rfl
theorem selectin_sem (l : Bool) (xs : List Val) (v : Val) : (SExpr.isIn 0).eval [.seq l xs] v = some ((Pred.isIn xs).eval v) := rfl
theorem selectnotin_sem (l : Bool) (xs : List Val) (v : Val) : (SExpr.notIn 0).eval [.seq l xs] v = some ((Pred.notIn xs).eval v) := rfl
theorem selectrangeopenleft_sem (a b v : Val) :
    (SExpr.chain (.ref 0 true) .le (.cell false) .lt (.ref 1 true)).eval [a, b] v = some ((Pred.rangeOpenLeft a b).eval v) := rfl
theorem selectrangeopenright_sem (a b v : Val) :
    (SExpr.chain (.ref 0 true) .lt (.cell false) .le (.ref 1 true)).eval [a, b] v = some ((Pred.rangeOpenRight a b).eval v) := rfl
theorem selectrangeopen_sem (a b v : Val) :
    (SExpr.chain (.ref 0 true) .le (.cell false) .le (.ref 1 true)).eval [a, b] v = some ((Pred.rangeOpen a b).eval v) := rfl
theorem selectrangeclosed_sem (a b v : Val) :
    (SExpr.chain (.ref 0 true) .lt (.cell true) .lt (.ref 1 true)).eval [a, b] v = some ((Pred.rangeClosed a b).eval v) := rfl
theorem selecttrue_sem (v : Val) : SExpr.truthy.eval [] v = some (Pred.isTrue.eval v) := rfl
theorem selectfalse_sem (v : Val) : SExpr.notTruthy.eval [] v = some (Pred.isFalse.eval v) := rfl
theorem selectnone_sem (v : Val) : SExpr.isNone.eval [] v = some (Pred.isNone.eval v) := rfl
theorem selectnotnone_sem (v : Val) : SExpr.isNotNone.eval [] v = some (Pred.notNone.eval v) := rfl

/-- the reflected-operand rule really matters: with a raw reference value `v < ref` is not defined by the model -/
example : evalCmp (.num .int (.fin 1)) false .lt (.str [97]) false = none := by decide

end Petl.C13
