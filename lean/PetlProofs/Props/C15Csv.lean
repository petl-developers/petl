/-
  C15, csv: the row-codec hypothesis of the framing theorems is discharged by the model of CPython's
  csv writer and reader (Petl/Csv.lean, PetlProofs/Csv.lean), for QUOTE_MINIMAL and QUOTE_ALL and every
  delimiter / quote character that differ and are not CR or LF.  `strOf` is Python's `str()` of a cell
  (what `csv.writer` applies to non-text cells); it stays a parameter.
-/
import PetlProofs.Props.C15
import PetlProofs.Csv

namespace Petl.C15

/-- `writer.writerow(row)` and `list(reader(text))` as a row codec on petl rows -/
def csvRender (qa : Bool) (d q : Nat) (strOf : Val → List Nat) (r : Row) : Bytes :=
  Csv.writeRow qa d q (r.map strOf)

def csvParse (d q : Nat) (b : Bytes) : List Row := (Csv.readAll d q b).map (fun rec => rec.map Val.str)

def csvText (strOf : Val → List Nat) (r : Row) : Row := r.map (fun v => Val.str (strOf v))

theorem csv_codec_ok (qa : Bool) (d q : Nat) (D : Csv.Dialect d q) (strOf : Val → List Nat) :
    RowCodecOK (csvRender qa d q strOf) (csvParse d q) (csvText strOf) := by
  intro rows
  have h : rows.flatMap (csvRender qa d q strOf) = Csv.writeAll qa d q (rows.map (fun r => r.map strOf)) := by
    simp only [Csv.writeAll, List.flatMap_map]
    rfl
  rw [h]
  unfold csvParse
  rw [Csv.read_write D]
  simp [csvText, Function.comp_def]

/-- tocsv then fromcsv, with nothing assumed about csv: the same header and rows, every cell as text -/
theorem csv_roundtrip_concrete (qa : Bool) (d q : Nat) (D : Csv.Dialect d q) (strOf : Val → List Nat) (t : Table) :
    fromBytes (csvParse d q) none (toBytes (csvRender qa d q strOf) true [] [] t) = t.map (csvText strOf) :=
  csv_roundtrip _ _ _ (csv_codec_ok qa d q D strOf) t

/-- appendcsv after tocsv reads back as the concatenated table -/
theorem csv_append_roundtrip (qa : Bool) (d q : Nat) (D : Csv.Dialect d q) (strOf : Val → List Nat) (t1 t2 : Table) :
    fromBytes (csvParse d q) none
        (appendBytes (csvRender qa d q strOf) false (toBytes (csvRender qa d q strOf) true [] [] t1) t2)
      = (t1 ++ t2.drop 1).map (csvText strOf) := by
  rw [append_is_concat]
  exact csv_roundtrip_concrete qa d q D strOf (t1 ++ t2.drop 1)

end Petl.C15
