/-
  C03 — transformations never modify their inputs or rows already delivered.

  `safe_sound`: a function body accepted by the ownership analysis writes, in every execution
  (every choice of foreign objects, every branch, any number of loop iterations), only to objects
  it allocated itself and has not yet yielded, returned or stored away.  The per-function
  obligations are discharged over the table regenerated from petl's source on every run
  (`Petl.Gen.heapProgs`, translators/heap_ir.py).
-/
import PetlProofs.Heap
import PetlProofs.HeapSafe
import Petl.Gen.HeapSelfTest

namespace Petl.C03
open Petl.Heap

/-- one step of the induction: everything the theorem needs about a sub-execution -/
def Good (s t : HState) (b : Abs) : Prop :=
  WF t ∧ Models t b ∧ ∃ evs, t.log = s.log ++ evs ∧ okLog s.owned evs = true ∧ t.owned = ownedAfter s.owned evs

theorem good_trans {s t u : HState} {b c : Abs} (h1 : Good s t b) (h2 : Good t u c) : Good s u c := by
  obtain ⟨_, _, e1, hl1, ho1, hw1⟩ := h1
  obtain ⟨w2, m2, e2, hl2, ho2, hw2⟩ := h2
  refine ⟨w2, m2, e1 ++ e2, ?_, ?_, ?_⟩
  · rw [hl2, hl1, List.append_assoc]
  · rw [okLog_append, ho1, ← hw1, ho2]; rfl
  · rw [ownedAfter_append, ← hw1, hw2]

theorem good_silent {s t : HState} {b : Abs} (wf : WF t) (m : Models t b) (hl : t.log = s.log)
    (ho : t.owned = s.owned) : Good s t b :=
  ⟨wf, m, [], by rw [hl, List.append_nil], rfl, ho⟩

theorem sound_step {p : Prog} {s t : HState} (h : Exec p s t) :
    ∀ a b, analyze p a = some b → WF s → Models s a → Good s t b := by
  intro a b ha wf m
  induction h generalizing a b with
  | skip s =>
    cases ha
    exact good_silent wf m rfl rfl
  | bindExt s x o ho hn =>
    cases ha
    refine good_silent wf (models_set ?_ (models_rebind x o m)) rfl rfl
    simp only [Fact, upd_self]
    exact ⟨hn, ho⟩
  | bindFresh s x n =>
    cases ha
    refine ⟨wf_alloc n wf, models_set ?_ (models_rebind x s.next (models_alloc n wf m)), [.alloc s.next], rfl, rfl, rfl⟩
    simp [Fact, upd_self]
  | bindVar s x y =>
    simp only [analyze] at ha
    split at ha <;> cases ha
    · refine good_silent wf (models_set ?_ (models_rebind x _ m)) rfl rfl
      exact fact_rebind (upd_self ..) (m y _ (get_mem ‹_›))
    · exact good_silent wf (models_rebind x _ m) rfl rfl
  | bindUnknown s x o ho =>
    cases ha
    exact good_silent wf (models_rebind x o m) rfl rfl
  | mutate s x =>
    simp only [analyze] at ha
    split at ha <;> cases ha
    have hx : Fact s x (.own _) := m x _ (get_mem ‹_›)
    refine ⟨wf, m, [.write (s.env x)], rfl, ?_, rfl⟩
    simp only [okLog, List.contains_iff_mem.mpr hx.1, Bool.and_self]
  | release s x =>
    suffices hm : Models (s.release x) b from ⟨wf_release x wf, hm, [.release (s.env x)], rfl, rfl, rfl⟩
    simp only [analyze] at ha
    split at ha <;> cases ha
    · exact models_release_dropSite wf m fun _ => (m x (.own _) (get_mem ‹_›)).2
    · exact models_release_dropSite wf m (m x (.maybe _) (get_mem ‹_›)).1
    · exact models_release_ext m (m x .ext (get_mem ‹_›)).1
    · exact models_release_dropOwn wf m
  | seq p q s t u _ _ ih1 ih2 =>
    obtain ⟨c, hp, hq⟩ := Option.bind_eq_some_iff.mp ha
    have g1 := ih1 a c hp wf m
    exact good_trans g1 (ih2 c b hq g1.1 g1.2.1)
  | branchL p q s t _ ih =>
    simp only [analyze] at ha
    split at ha <;> cases ha
    obtain ⟨w, mm, r⟩ := ih _ _ ‹_› wf m
    exact ⟨w, models_meet_left w mm, r⟩
  | branchR p q s t _ ih =>
    simp only [analyze] at ha
    split at ha <;> cases ha
    obtain ⟨w, mm, r⟩ := ih _ _ ‹_› wf m
    exact ⟨w, models_meet_right w mm, r⟩
  | loopDone p s =>
    exact good_silent wf ((loopInv_spec ha).1 s wf m) rfl rfl
  | loopStep p s t u _ _ ih1 ih2 =>
    have ⟨h1, out, hf, hs⟩ := loopInv_spec ha
    have g1 := ih1 b out hf wf (h1 s wf m)
    -- on the invariant it returned `loopInv` stops at once: the remaining rounds are analysed from `b` to `b`
    have hb : analyze (.loop p) b = some b := by
      simp only [analyze, loopInv, hf, hs, if_true]
    exact good_trans g1 (ih2 b b hb g1.1 (models_sub g1.1 hs g1.2.1))

/-- **C03, soundness of the analysis.**  Started with nothing owned (every parameter, every object
    reachable from the inputs and everything delivered earlier is foreign), a safe body performs in
    every execution only writes to objects it allocated itself and has not yet released. -/
theorem safe_sound (p : Prog) (hs : safe p = true) (s t : HState) (h0 : s.owned = []) (hl : s.log = [])
    (h : Exec p s t) : okLog [] t.log = true := by
  obtain ⟨b, ha⟩ := Option.isSome_iff_exists.1 hs
  have wf : WF s := by intro o ho; simp [h0] at ho
  obtain ⟨_, _, evs, hlog, hok, _⟩ := sound_step h [] b ha wf (models_nil s)
  rw [hlog, hl, List.nil_append, ← h0]; exact hok

/-- the trace property really forbids what the property forbids: a write to a foreign object, and a
    write to an object after it has been delivered, are both rejected -/
theorem okLog_rejects_foreign_write (o : Nat) (es : List Ev) : okLog [] (.write o :: es) = false := by
  simp [okLog]

theorem okLog_rejects_write_after_release (o : Nat) (es : List Ev) :
    okLog [] (.alloc o :: .release o :: .write o :: es) = false := by
  simp [okLog]

/-- ... and the analysis rejects the corresponding programs: in-place edit of a source row, and reuse
    of a delivered row buffer across iterations -/
example : safe (.seq (.bindExt 0) (.mutate 0)) = false := by decide
example : safe (.seq (.bindFresh 0 1) (.loop (.seq (.mutate 0) (.release 0)))) = false := by decide
/-- copy-then-edit-then-yield inside a loop is accepted -/
example : safe (.seq (.bindExt 0) (.loop (.seq (.bindExt 1) (.seq (.bindFresh 2 1)
    (.seq (.mutate 2) (.release 2)))))) = true := by decide

/-- every function body of the modelled modules, as translated from the current source, is accepted by the
    analysis or is on the hand-reviewed list with exactly the body that was reviewed (`Petl.Heap.isReviewed`,
    PetlProofs/HeapReviewed.lean and HeapReviewedBodies.lean) -/
theorem all_bodies_safe :
    ∀ f ∈ Gen.heapProgs, Heap.isReviewed f = true ∨ safe f.2 = true := tableOK_sound heapProgs_ok

/-- the translator and the analysis give the expected verdict on every reference snippet
    (translators/heap_selftest_cases.py: in-place edits of source rows, reused row buffers, edits after yield are
    rejected; copy-then-edit shapes are accepted) -/
theorem translator_selftest : ∀ t ∈ Gen.selfTests, safe t.2.1 = t.2.2 := by decide +kernel

end Petl.C03

