/-
  C08 — recordcomplement / recorddiff: the multiset difference after aligning b's fields to a's by name.
-/
import PetlProofs.Props.C08
import Petl.Basics
namespace Petl.C08

/-- `cut(b, *header(a))`: b's rows with their cells in a's field order (`idx[i]` = position in b of a's field `i`) -/
def alignRows (idx : List Nat) (B : List Row) : List Row := pickRows idx .none B

theorem alignRows_rect (idx : List Nat) (B : List Row) : Rect idx.length (alignRows idx B) :=
  List.forall_mem_map.2 fun _ _ => List.length_map _

/-- cell `i` of an aligned row is the cell of b's row under a's field `i` -/
theorem alignRows_cells (idx : List Nat) (B : List Row) (k : Nat) (r : Row) (h : B[k]? = some r) :
    (alignRows idx B)[k]? = some (idx.map (fun i => r.getD i .none)) := by
  rw [alignRows, pickRows, List.getElem?_map, h]
  rfl

/-- recordcomplement(a, b) = complement(a, cut(b, *header(a))): the multiset difference after aligning b's fields
    to a's by name; recorddiff returns this and the same with the roles swapped -/
theorem recordcomplement_count (ahdr : Row) (bs : Option Nat) (A B : List Row) (idx : List Nat)
    (hw : 1 ≤ ahdr.length) (hidx : idx.length = ahdr.length)
    (hbs : ∀ b, bs = some b → 1 ≤ b) (hA : Rect ahdr.length A) (x : Row) :
    countRow x (complLoop false (sortAll ahdr bs A) (sortAll ahdr bs (alignRows idx B)))
      = countRow x A - countRow x (alignRows idx B) ∧
    countRow x (complLoop true (sortAll ahdr bs A) (sortAll ahdr bs (alignRows idx B)))
      = (if countRow x (alignRows idx B) = 0 then countRow x A else 0) := by
  have hB : Rect ahdr.length (alignRows idx B) := hidx ▸ alignRows_rect idx B
  exact ⟨complement_count ahdr ahdr bs A _ hw rfl hbs hA hB x,
         complement_strict_count ahdr ahdr bs A _ hw rfl hbs hA hB x⟩

example : alignRows [1, 0] [[Val.none, .str [97]], [.str [98]]] = [[.str [97], .none], [.none, .str [98]]] := rfl
end Petl.C08
