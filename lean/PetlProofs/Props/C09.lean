/-
  C09 — grouping and aggregation conserve rows: each row in exactly one group.

  `sortedGroups kidx bs rows` is what every grouping operator iterates over: the key groups that
  rowgroupby (itertools.groupby) forms on the table sorted by the key (C05, any buffer size).
-/
import PetlProofs.Group
import Petl.Dedup

namespace Petl.C09

variable (kidx : List Nat) (bs : Option Nat) (hbs : ∀ b, bs = some b → 1 ≤ b) (rows : List Row)
include hbs

/-- the groups, concatenated, are the sorted table: no row lost, none duplicated -/
theorem groups_flatten :
    flattenG (sortedGroups kidx bs rows) = sortRows (rowLe kidx false) bs rows ∧
    (flattenG (sortedGroups kidx bs rows)).Perm rows :=
  ⟨flattenG_groups _ _, sortedGroups_perm kidx bs hbs rows⟩

/-- one group per distinct key value, in ascending key order; no empty group -/
theorem groups_keys_strictly_ascending :
    (sortedGroups kidx bs rows).Pairwise (fun g h => Val.lt g.1 h.1 = true) ∧
    (∀ g ∈ sortedGroups kidx bs rows, g.2 ≠ []) :=
  (sortedGroups_spec kidx bs hbs rows).imp_left (·.asc)

/-- each group contains exactly the rows with that key, in input order -/
theorem group_is_filter (g : Val × List Row) (hg : g ∈ sortedGroups kidx bs rows) :
    g.2 = rows.filter (fun r => Val.eq (getKey kidx r) g.1) :=
  group_eq_input_filter kidx bs hbs rows g hg

theorem group_counts_sum_nrows :
    ((sortedGroups kidx bs rows).map (fun g => g.2.length)).sum = rows.length := by
  rw [← (sortedGroups_perm kidx bs hbs rows).length_eq, flattenG, List.length_flatMap]

theorem group_sums_sum_total (val : Row → Int) :
    ((sortedGroups kidx bs rows).map (fun g => (g.2.map val).sum)).sum = (rows.map val).sum := by
  rw [sum_map_sum_flattenG]
  exact sum_perm_int ((sortedGroups_perm kidx bs hbs rows).map val)

/-- groupselectfirst returns, for each key, the first row of the input with that key
    (and groupselectlast the last): members of their group -/
theorem selectfirst_is_first_of_key (g : Val × List Row) (hg : g ∈ sortedGroups kidx bs rows) :
    g.2.head? = rows.find? (fun r => Val.eq (getKey kidx r) g.1) ∧
    g.2.getLast? = (rows.filter (fun r => Val.eq (getKey kidx r) g.1)).getLast? := by
  rw [group_is_filter kidx bs hbs rows g hg, List.head?_filter]
  exact ⟨rfl, rfl⟩

/-- groupselectmin (sort by the value field, then first of each key group): the selected row is a
    row of the input with that key whose value is minimal within its group (max: symmetric) -/
theorem selectmin_is_min_of_group (vidx : List Nat) (max : Bool) (g : Val × List Row)
    (hg : g ∈ sortedGroups kidx bs (sortRows (rowLe vidx max) none rows)) (r : Row) (hr : g.2.head? = some r) :
    r ∈ rows ∧ Val.eq (getKey kidx r) g.1 = true ∧
    ∀ r' ∈ rows, Val.eq (getKey kidx r') g.1 = true → rowLe vidx max r r' = true := by
  have hp := rowLe_totalPre vidx max
  have hg2 := group_is_filter kidx bs hbs _ g hg
  obtain ⟨t, ht⟩ := List.head?_eq_some_iff.1 hr
  have hmem : ∀ x, x ∈ r :: t ↔ x ∈ rows ∧ Val.eq (getKey kidx x) g.1 = true := fun x => by
    rw [← ht, hg2, List.mem_filter, (sortRows_perm vidx max none nofun rows).mem_iff]
  -- the group is a sublist of the table sorted by value, so its first row is minimal in it
  have hs : SortedL (rowLe vidx max) (r :: t) := ht ▸ hg2 ▸ (mergeSort_isStableSort hp rows).1.filter _
  exact and_assoc.1 ⟨(hmem r).1 List.mem_cons_self, fun r' hr' hk => hs.head_le hp r' ((hmem r').2 ⟨hr', hk⟩)⟩

/-- every output value of aggregate is the aggregation function applied to exactly the rows with
    that key, in input order (stated for the simple form; `f` arbitrary, `vidx` any value selection) -/
theorem aggregate_applies_to_group (keyHdr : Row) (field : Val) (vidx : Option (List Nat)) (f : AggFn) :
    simpleAggregate keyHdr field kidx vidx f bs rows =
      mkOut (keyHdr ++ [field]) (mapGroups (fun g => do
        let vs ← groupValues vidx (rows.filter (fun r => Val.eq (getKey kidx r) g.1))
        let a ← f.apply vs
        pure (keyCells kidx g.1 ++ [a])) (sortedGroups kidx bs rows)) := by
  unfold simpleAggregate
  congr 1
  exact mapGroups_congr (fun g hg => by rw [group_is_filter kidx bs hbs rows g hg])

/-! non-vacuity: ragged rows with the keys 2, 1 and 1.0; the int and the float fall into one group -/
omit hbs in
example : (sortedGroups [0] (some 1) [[.num .int (.fin 2)], [.num .int (.fin 1), .str [97]], [.num .float (.fin 1)]]).length = 2 := by
  decide +kernel

/-- `groupcountdistinctvalues` (as of petl d4bbfd2: cut, distinct, count per key): the counts add up to the
    number of distinct (key…, value) rows, one output row per key of those, keys strictly ascending, every count ≥ 1 -/
theorem groupcountdistinct_counts (vidx : Nat) :
    ((groupCountDistinct kidx vidx bs rows).map (·.2)).sum = (gcdvDistinct kidx vidx bs rows).length ∧
    (groupCountDistinct kidx vidx bs rows).Pairwise (fun g h => Val.lt g.1 h.1 = true) ∧
    (∀ g ∈ groupCountDistinct kidx vidx bs rows, 1 ≤ g.2) := by
  have h := groups_keys_strictly_ascending (List.range kidx.length) bs hbs (gcdvDistinct kidx vidx bs rows)
  refine ⟨?_, List.pairwise_map.2 h.1, fun g hg => ?_⟩
  · rw [groupCountDistinct, List.map_map]
    exact group_counts_sum_nrows (List.range kidx.length) bs hbs (gcdvDistinct kidx vidx bs rows)
  · obtain ⟨g', hg', rfl⟩ := List.mem_map.1 hg
    exact List.length_pos_iff.2 (h.2 g' hg')

/-- the key-less aggregate is the aggregation function applied to all the rows: one value per data row goes in
    (so `len` gives nrows), whole rows when no value field is named -/
theorem keyless_aggregate_sees_every_row (vidx : Option (List Nat)) :
    (keylessValues vidx rows).length = rows.length ∧
    (vidx = none → keylessValues vidx rows = rows.map (fun r => Val.seq false r)) := by
  constructor
  · unfold keylessValues
    split <;> simp
  · intro h; subst h; rfl

end Petl.C09
