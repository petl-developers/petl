/-
  C01 — table views are re-iterable and their iterators are mutually independent.

  For each kind of view a state machine (Petl/Views.lean) and the theorem that, for EVERY schedule
  of `new` / `next i` operations on any number of iterators (partial consumption and abandonment
  included — an abandoned iterator is one the schedule stops advancing), every iterator has received
  a prefix of the one sequence `full`, and a `next` on an iterator at position k delivers row k
  (so it never stops early and a fresh pass started at any point yields `full` again).
-/
import PetlProofs.Views

namespace Petl.C01

def Independent {σ ι : Type} (m : Machine σ ι) (full : List Row) : Prop :=
  ∀ sched : List SOp,
    (∀ (i : Nat) (out : List Row), (m.run sched).outs[i]? = some out → ∃ k, out = full.take k ∧ k ≤ full.length) ∧
    (∀ (i : Nat) (it : ι), (m.run sched).iters[i]? = some it →
      ∃ k, (m.run sched).outs[i]? = some (full.take k) ∧ (m.step (m.run sched).shared it).2.2 = full[k]?)

theorem independent_of_cert {σ ι : Type} {m : Machine σ ι} {full : List Row} (c : IndepCert m full) :
    Independent m full := by
  intro sched
  obtain ⟨hs, hlen, hit⟩ := runInv_run c sched
  refine ⟨fun i out h => ?_, fun i it hi => ?_⟩
  · have hib : i < (m.run sched).iters.length := hlen ▸ (List.getElem?_eq_some_iff.1 h).1
    obtain ⟨k, hk1, hk2, _⟩ := hit i _ (List.getElem?_eq_getElem hib)
    rw [h] at hk1; cases hk1
    exact ⟨k, rfl, hk2⟩
  · obtain ⟨k, hk1, _, hk3⟩ := hit i it hi
    exact ⟨k, hk1, c.step_out hs hk3⟩

/-- views without shared state (all plain transforms): private cursors -/
theorem pureView_independent (rows : List Row) : Independent (pureMachine rows) rows :=
  independent_of_cert (pureCert rows)

/-- cache(table, n): with the append guard, for every cache limit n and every schedule -/
theorem cacheView_independent (inner : List Row) (n : Option Nat) :
    Independent (cacheMachine true inner n) inner :=
  independent_of_cert (cacheCert inner n)

theorem cacheView_cache_is_prefix (inner : List Row) (n : Option Nat) (sched : List SOp) :
    ((cacheMachine true inner n).run sched).shared.cache =
      inner.take ((cacheMachine true inner n).run sched).shared.cache.length :=
  (runInv_run (cacheCert inner n) sched).1.1

/-- fromdicts on a generator: one-shot source + shared spill log + private positions -/
theorem dictsGen_independent (rows : List Row) : Independent (dictsGenMachine rows) rows :=
  independent_of_cert (dictsGenCert rows)

/-- sort (memory or file cache, cache on or off): cached data bound at iterator creation -/
theorem sortView_independent (cacheOn : Bool) (out : List Row) :
    Independent (sortViewMachine cacheOn out) out :=
  independent_of_cert (sortViewCert cacheOn out)

/-! ### the unrepaired protocols fail the property (the schedules of the defects repaired in /repo
    318f703 and ccc92e5, DESIGN.md 8.4) -/

/-- cache() without the append guard: two iterators filling at the same time append the same rows;
    the cache ends up longer than the table -/
theorem cacheView_unguarded_duplicates :
    let inner : List Row := [[.str [104]], [.num .int (.fin 1)], [.num .int (.fin 2)]]
    let sched := [SOp.new, .new, .next 0, .next 1, .next 1, .next 0, .next 0, .next 1, .next 0, .next 1]
    ((cacheMachine false inner none).run sched).shared.cache.length = 5 ∧ inner.length = 3 := by
  decide

/-- sort with lazily-read caches: an iterator obtained after the cache was filled, advanced after an
    earlier-created iterator started (and cleared the cache), crashes -/
theorem sortView_lazy_cache_crashes :
    let out : List Row := [[.str [104]], [.num .int (.fin 1)]]
    let sched := [SOp.new, .new, .next 0, .next 0, .next 0, .new, .next 1, .next 2]
    (match ((sortViewMachineOld out).run sched).iters[2]? with | some .crashed => true | _ => false) = true := by
  decide

/-! non-vacuity: a schedule with three iterators, one abandoned after the header -/
example : ((cacheMachine true [[.str [104]], [.num .int (.fin 1)]] (some 1)).run
    [.new, .new, .next 0, .next 1, .next 1, .new, .next 2, .next 2, .next 2]).outs.map List.length = [1, 2, 2] := by
  decide

end Petl.C01
