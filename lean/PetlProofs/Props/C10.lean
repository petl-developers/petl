/-
  C10 — duplicates/unique/distinct/conflicts partition rows by key multiplicity.

  The operators run their detectors over `sortRows … rows` (C05, any buffer size), and the detectors are
  functions of the key groups (PetlProofs/Dedup.lean).  A key group of the sorted rows has as many rows as
  its key occurs in the input (`group_len_eq_mult`), so being in duplicates or in unique is a condition on
  `keyMult` (`mem_groups_of_size`).
-/
import PetlProofs.Dedup

namespace Petl.C10

/-- multiplicity of a row's key in the table -/
def keyMult (kidx : List Nat) (rows : List Row) (r : Row) : Nat :=
  (rows.filter (fun x => Val.eq (getKey kidx x) (getKey kidx r))).length

/-- the run detector of `duplicates` returns exactly the adjacent key groups of size ≥ 2 … -/
theorem duplicates_eq_groups (key : Row → Val) (rows : List Row) :
    dupRows key rows = ((groups key rows).filter (fun g => decide (2 ≤ g.2.length))).flatMap (·.2) :=
  dupRows_groups key rows

/-- … and that of `unique` exactly the groups of size 1 (any arrangement of run lengths) -/
theorem unique_eq_groups (key : Row → Val) (rows : List Row) :
    uniqRows key rows = ((groups key rows).filter (fun g => decide (g.2.length = 1))).flatMap (·.2) :=
  uniqRows_groups key rows

/-- conflicts returns only rows of duplicate groups, in their order -/
theorem conflicts_sublist_duplicates (key : Row → Val) (sel : Nat → Bool) (missing : Val) (rs : List Row) :
    List.Sublist (confRows key sel missing rs) (dupRows key rs) := by
  cases rs with
  | nil => exact List.Sublist.refl _
  | cons r rest => exact confAux_sublist key sel missing r false rest

/-- isunique is true exactly when no two rows have equal key values -/
theorem isunique_iff (vs : List Val) :
    isUniqueVals vs = true ↔ vs.Pairwise (fun a b => Val.eq a b = false) := by
  rw [isUniqueVals, isUniqueAux_iff]; simp

variable (kidx : List Nat) (bs : Option Nat) (hbs : ∀ b, bs = some b → 1 ≤ b) (rows : List Row)
include hbs

/-- duplicates(t) and unique(t) partition the rows of t -/
theorem duplicates_unique_partition :
    (dupRows (getKey kidx) (sortRows (rowLe kidx false) bs rows)
      ++ uniqRows (getKey kidx) (sortRows (rowLe kidx false) bs rows)).Perm rows :=
  (dupRows_uniqRows_perm _ _).trans (sortRows_perm kidx false bs hbs rows)

theorem group_len_eq_mult (g : Val × List Row) (hg : g ∈ sortedGroups kidx bs rows) (r : Row) (hr : r ∈ g.2) :
    g.2.length = keyMult kidx rows r := by
  have hk : Val.eq g.1 (getKey kidx r) = true :=
    (Val.eq_symm _ _).trans ((sortedGroups_spec kidx bs hbs rows).1.keyed g hg r hr)
  simp only [keyMult, group_eq_input_filter kidx bs hbs rows g hg, fun x => Val.eq_congr_right x _ _ hk]

theorem ofSize_sortedGroups (P : Nat → Prop) [DecidablePred P] :
    ofSize P (sortedGroups kidx bs rows)
      = (sortRows (rowLe kidx false) bs rows).filter (fun r => decide (P (keyMult kidx rows r))) := by
  rw [← flattenG_groups (getKey kidx) (sortRows _ bs rows), flattenG,
    filter_flatMap_of_const (fun g : Val × List Row => g.2) _ (fun g => decide (P g.2.length))]
  · rfl
  · intro g hg r hr; rw [group_len_eq_mult kidx bs hbs rows g hg r hr]

theorem mem_groups_of_size (P : Nat → Prop) [DecidablePred P] (r : Row) :
    r ∈ ofSize P (sortedGroups kidx bs rows) ↔ (r ∈ rows ∧ P (keyMult kidx rows r)) := by
  rw [ofSize_sortedGroups kidx bs hbs, List.mem_filter, (sortRows_perm kidx false bs hbs rows).mem_iff,
    decide_eq_true_eq]

/-- a row is in duplicates exactly when its key occurs more than once in the table -/
theorem mem_duplicates_iff (r : Row) :
    r ∈ dupRows (getKey kidx) (sortRows (rowLe kidx false) bs rows) ↔ (r ∈ rows ∧ 2 ≤ keyMult kidx rows r) :=
  dupRows_groups _ _ ▸ mem_groups_of_size kidx bs hbs rows (2 ≤ ·) r

/-- a row is in unique exactly when its key occurs once -/
theorem mem_unique_iff (r : Row) :
    r ∈ uniqRows (getKey kidx) (sortRows (rowLe kidx false) bs rows) ↔ (r ∈ rows ∧ keyMult kidx rows r = 1) :=
  uniqRows_groups _ _ ▸ mem_groups_of_size kidx bs hbs rows (· = 1) r

/-- distinct keeps exactly one row per distinct key: the head of each key group (C09: one group per key, keys
    strictly ascending), i.e. the first row of the input with that key -/
theorem distinct_first_of_each_group :
    distinctRows (getKey kidx) (sortRows (rowLe kidx false) bs rows)
      = (sortedGroups kidx bs rows).filterMap (fun g => rows.find? (fun r => Val.eq (getKey kidx r) g.1)) := by
  rw [distinctRows_groups]
  exact filterMap_congr (fun g hg => by rw [group_eq_input_filter kidx bs hbs rows g hg, List.head?_filter])

/-- distinct(count=…): the rows are those of distinct, and the count column adds up to nrows -/
theorem distinct_count_sum_nrows :
    (distinctCountRows (getKey kidx) (sortRows (rowLe kidx false) bs rows)).map List.dropLast
      = distinctRows (getKey kidx) (sortRows (rowLe kidx false) bs rows) ∧
    ((distinctCountRows (getKey kidx) (sortRows (rowLe kidx false) bs rows)).map lastCount).sum = rows.length := by
  rw [distinctCountRows_groups, distinctRows_groups, counted_dropLast, counted_sum]
  exact ⟨rfl, congrArg _ (sortedGroups_perm kidx bs hbs rows).length_eq⟩

/-! non-vacuity: a table in which one key occurs twice (across number types) and one once -/
omit hbs in
example : keyMult [0] [[.num .int (.fin 1)], [.str [97]], [.num .float (.fin 1)]] [.num .bool (.fin 1)] = 2 ∧
    keyMult [0] [[.num .int (.fin 1)], [.str [97]], [.num .float (.fin 1)]] [.str [97]] = 1 := by decide

end Petl.C10
