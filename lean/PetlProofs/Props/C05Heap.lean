/-
  C05 — the heap entry comparison of heapq.merge over `_Keyed` items selects what the model's `pickMin` selects.
-/
import PetlProofs.Sort
namespace Petl.C05

variable {α : Type}

/-! ### `heapq.merge` over `_Keyed` items: why the first run with a minimal head is the one taken

  `heapq.merge` keeps one entry `[item, order, next]` per iterable (`order` = position of the iterable) and always pops
  the entry that is `<` all others.  Python compares lists by the first position where the items *differ* (`==`), then
  `<` there.  `_Keyed.__eq__` and `_Keyed.__lt__` look at the key only. -/

/-- `_Keyed.__eq__` derived from the key order: neither key is below the other -/
def keyedEq (klt : α → α → Bool) (a b : α) : Bool := !klt a b && !klt b a

/-- the sort relation of the model: `a` may come before `b` -/
def leOf (klt : α → α → Bool) (a b : α) : Bool := !klt b a

/-- Python's `[a, i] < [b, j]` for heap entries, given the items' `==` and `<` -/
def entryLt (eq lt : α → α → Bool) (a : α × Nat) (b : α × Nat) : Bool :=
  if eq a.1 b.1 then decide (a.2 < b.2) else lt a.1 b.1

/-- the entry the model's `pickMin` takes is below every other heap entry: the heap pops the same one -/
theorem pickMin_is_heap_minimum (klt : α → α → Bool) (hp : TotalPre (leOf klt)) (runs : List (Run α)) (i : Nat) (m : α)
    (h : pickMin (leOf klt) runs = some (i, m)) :
    (∃ r, runs[i]? = some r ∧ r.1 = m) ∧
    ∀ j r, runs[j]? = some r → j ≠ i → entryLt (keyedEq klt) klt (m, i) (r.1, j) = true := by
  obtain ⟨hi, hall, hbefore⟩ := pickMin_spec (leOf klt) hp runs i m h
  refine ⟨hi, fun j r hj hne => ?_⟩
  have h1 : klt r.1 m = false := by simpa [leOf] using hall r (List.mem_of_getElem? hj)
  cases h2 : klt m r.1
  · -- equal keys: the order index decides, and no earlier run has an equal head
    have hij : i < j := (Nat.lt_or_gt_of_ne hne).resolve_left fun hlt => by
      simpa [leOf, h2] using hbefore j r hlt hj
    simp [entryLt, keyedEq, h1, h2, hij]
  · simp [entryLt, keyedEq, h1, h2]

/-- at most one entry can be below all others, so "the entry below every other" determines the pop -/
theorem heap_minimum_unique (klt : α → α → Bool) (hasym : ∀ a b, klt a b = true → klt b a = false)
    (a b : α × Nat) (hab : entryLt (keyedEq klt) klt a b = true) : entryLt (keyedEq klt) klt b a = false := by
  unfold entryLt keyedEq at *
  cases h1 : klt a.1 b.1 <;> cases h2 : klt b.1 a.1 <;> simp [h1, h2] at hab ⊢
  · exact Nat.le_of_lt hab          -- equal keys: the order indices decide, one way only
  · simp [hasym _ _ h1] at h2       -- both keys below each other: excluded by `hasym`

/-- with an `==` that also looks at the row (what a plain namedtuple does), two entries of equal key and different rows
    are ordered neither way: the run order is never consulted and the merge is no longer stable -/
example :
    let klt : Nat × Nat → Nat × Nat → Bool := fun a b => decide (a.1 < b.1)        -- key = first component
    let rowEq : Nat × Nat → Nat × Nat → Bool := fun a b => decide (a = b)
    entryLt rowEq klt ((1, 7), 0) ((1, 8), 1) = false ∧ entryLt rowEq klt ((1, 8), 1) ((1, 7), 0) = false ∧
    entryLt (keyedEq klt) klt ((1, 7), 0) ((1, 8), 1) = true := by decide

end Petl.C05
