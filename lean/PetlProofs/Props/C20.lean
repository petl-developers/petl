/-
  C20 — tables with a header and no data rows are handled by every operator.
  Corollaries of the operator models: with no data rows every modelled operator returns what its
  definition gives for zero rows and never an error.
-/
import Petl.Reshape
import Petl.Select
import Petl.HashJoin
import Petl.SetOps
import Petl.Dedup
import Petl.Join
import Petl.Basics
import Petl.Gen.BareNext

namespace Petl.C20

theorem sortRows_nil {α : Type} (le : α → α → Bool) (bs : Option Nat) : sortRows le bs ([] : List α) = [] := by
  cases bs <;> simp [sortRows, chunks, chunksAux, toRuns, kmerge, pickMin]

/-- sort / mergesort: the header and no rows, for every key that exists, direction and buffer size -/
theorem sort_header_only (hdr : Row) (rev : Bool) (bs : Option Nat) :
    (∀ k idx, asindices hdr k = .ok idx → sortView [hdr] (some k) rev bs = .ok [hdr]) ∧
    (hdr ≠ [] → sortView [hdr] none rev bs = .ok [hdr]) := by
  constructor
  · intro k idx h; simp [sortView, h, sortRows_nil]
  · intro h
    simp [sortView, List.isEmpty_eq_false_iff.2 h, sortRows_nil]

theorem groups_nil (key : Row → Val) : groups key [] = [] := rfl

theorem sortedGroups_nil (kidx : List Nat) (bs : Option Nat) : sortedGroups kidx bs [] = [] := by
  rw [sortedGroups, sortRows_nil, groups_nil]

/-- join family: with a header-only side the output is the header plus, for the outer variants, the
    other side's rows padded; antijoin keeps the left rows; never an error -/
theorem joins_header_only (ops : JoinOps) (lo ro : Bool) (gs : List (Val × List Row)) :
    mergeGroups ops lo ro [] [] = [] ∧
    mergeGroups ops false false gs [] = [] ∧ mergeGroups ops false false [] gs = [] ∧
    mergeGroups ops true ro gs [] = gs.flatMap (fun g => g.2.map ops.padL) ∧
    mergeGroups ops lo true [] gs = gs.flatMap (fun g => g.2.map ops.padR) ∧
    antiGroups gs [] = gs.flatMap (fun g => g.2) ∧ antiGroups [] gs = [] ∧
    lookupGroups ops gs [] = gs.flatMap (fun g => g.2.map ops.padL) ∧ lookupGroups ops [] gs = [] := by
  cases gs <;> simp [mergeGroups, antiGroups, lookupGroups]

theorem hashjoins_header_only (ops : JoinOps) (kl kr : Row → Val) (L R : List Row) :
    hashInner ops kl kr [] R = [] ∧ hashInner ops kl kr L [] = [] ∧
    hashLeft ops kl kr L [] = L.map ops.padL ∧ hashLeft ops kl kr [] R = [] ∧
    hashRight ops kl kr [] R = R.map ops.padR ∧ hashRight ops kl kr L [] = [] ∧
    hashAnti kl kr L [] = L ∧ hashAnti kl kr [] R = [] ∧
    hashLookup ops kl kr L [] = L.map ops.padL :=
  -- the dictionary of an empty build side is empty by computation: every probe takes the `none` branch
  ⟨rfl, List.flatMap_eq_nil_iff.mpr fun _ _ => rfl, List.map_eq_flatMap.symm, rfl, List.map_eq_flatMap.symm, rfl,
    List.filter_eq_self.mpr fun _ _ => rfl, rfl, rfl⟩

theorem setops_header_only (strict : Bool) (A B : List Row) :
    complLoop strict [] B = [] ∧ complLoop strict A [] = A ∧
    interLoop [] B = [] ∧ interLoop A [] = [] ∧
    hashComplLoop strict [] B = [] ∧ hashComplLoop strict A [] = A ∧
    hashInterLoop [] B = [] ∧ hashInterLoop A [] = [] := by
  -- the Counter loops walk `A` also when the Counter is empty
  induction A with
  | nil => simp [complLoop, interLoop, hashComplLoop, hashInterLoop]
  | cons a A ih => simp [complLoop, interLoop, hashComplLoop, hashInterLoop, ih]

/-- grouping / aggregation: no groups, hence the header and no rows -/
theorem grouping_header_only (kidx : List Nat) (bs : Option Nat) (keyHdr : Row) (field : Val)
    (vidx : Option (List Nat)) (f : AggFn) (hdr : Row) (last : Bool) :
    sortedGroups kidx bs [] = [] ∧
    simpleAggregate keyHdr field kidx vidx f bs [] = { rows := [keyHdr ++ [field]], err := none } ∧
    groupSelect last hdr kidx bs [] = { rows := [hdr], err := none } ∧
    foldAdd kidx kidx bs [] = { rows := [[.str [107, 101, 121], .str [118, 97, 108, 117, 101]]], err := none } := by
  have h := sortedGroups_nil kidx bs
  refine ⟨h, ?_, ?_, ?_⟩
  · rw [simpleAggregate, h]; rfl
  · rw [groupSelect, h]; rfl
  · rw [foldAdd, h]; rfl

theorem dedup_header_only (key : Row → Val) (sel : Nat → Bool) (m : Val) :
    dupRows key [] = [] ∧ uniqRows key [] = [] ∧ distinctRows key [] = [] ∧ distinctCountRows key [] = [] ∧
    confRows key sel m [] = [] ∧ isUniqueVals [] = true :=
  ⟨rfl, rfl, rfl, rfl, rfl, rfl⟩

theorem select_header_only (idx : List Nat) (m : Val) (p : Val → Bool) (c : Bool) (a : Nat) (b : Option Nat) (s n : Nat) :
    fieldSelect idx m p c [] = [] ∧ rowSelect (fun _ => true) c [] = [] ∧
    islice a b s ([] : List Row) = [] ∧ tailRows n ([] : List Row) = [] :=
  ⟨rfl, rfl, by cases b <;> simp [islice, everyNth], List.drop_nil⟩

theorem transforms_header_only (hdr : Row) (idx : List Nat) (m : Val) (w : Nat) (a b : Int) (fill : Row)
    (f : Val) (fv : FieldVal) (i : Option Int) :
    pickRows idx m [] = [] ∧ catRows hdr m [hdr] = [] ∧
    (addfieldView f fv i m [hdr]).rows = [pyInsert hdr i f] ∧
    addrownumbersRows a b 0 [] = [] ∧ addcolumnRows w i m [] [] = [] ∧
    filldownRows idx m fill [] = [] ∧ recordsOf w m [] = [] ∧ valuesOf idx m [] = [] ∧
    (convertRows .raise m (fun _ => none) []) = ([], none) :=
  ⟨rfl, rfl, rfl, rfl, by simp [addcolumnRows], rfl, rfl, rfl, rfl⟩

theorem reshape_header_only (kidx : List Nat) (vars : List (Nat × Val)) (hdr : Row) (n : Nat) (m : Val)
    (vari vali : Nat) (vs : List Val) (bs : Option Nat) :
    meltRows kidx vars [] = ([], none) ∧
    transposeT [hdr] = hdr.zipIdx.map (fun (c, _) => [c]) ∧
    flattenVals [] = [] ∧ unflattenRows n m [] = [] ∧
    recastRows kidx vari vali vs m bs [] = [] := by
  refine ⟨rfl, ?_, rfl, rfl, ?_⟩
  · simp only [transposeT, List.headD_cons, List.map_cons, List.map_nil]
    apply List.ext_getElem
    · simp
    · intro i h1 h2
      simp at h2
      simp [getCell, List.getD, List.getElem?_eq_getElem h2]
  · rw [recastRows, sortedGroups_nil]; rfl

/-! non-vacuity: the statements are about arbitrary headers; e.g. a 2-field header with a duplicate name -/
example : sortView [[.str [97], .str [97]]] (some [.name [97]]) false (some 1) = .ok [[.str [97], .str [97]]] :=
  (sort_header_only _ _ _).1 _ [0] rfl

/-- tie by translation: in no generator function of petl/transform, the modelled util modules and the text-format
    readers is a data row fetched with next() outside a try that catches StopIteration (inside a generator the escaping
    StopIteration would become a RuntimeError on a table without data rows).  The list of such sites is regenerated from
    the source on every run (translators/bare_next.py) and must be empty. -/
theorem no_unguarded_data_next : Gen.bareNextSites = [] := rfl

end Petl.C20
