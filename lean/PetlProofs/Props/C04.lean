/-
  C04 — mixed-type ordering is one consistent total preorder: None < numbers < rest.

  `Val.lt`, `Val.eq`, `Val.le`, `Val.gt`, `Val.ge` model `Comparable.__lt__/__eq__/__le__/__gt__/__ge__`;
  the `bridge_*` theorems tie them to the ladder regenerated from petl/comparison.py on every run
  (Petl/Gen/Ladder.lean).  The laws of the order are those of PetlProofs/Order.lean, under the
  property's names.
-/
import PetlProofs.Order
import Petl.Gen.Ladder

namespace Petl.C04

/-! #### the ordering is a strict weak order whose equivalence is `==` — for all values, any nesting -/

theorem lt_irrefl (a : Val) : Val.lt a a = false := Val.lt_irrefl a

theorem lt_asymm (a b : Val) : Val.lt a b = true → Val.lt b a = false := Val.lt_asymm a b

theorem lt_trans (a b c : Val) : Val.lt a b = true → Val.lt b c = true → Val.lt a c = true :=
  Val.lt_trans a b c

theorem incomparable_iff_eq (a b : Val) :
    (Val.lt a b = false ∧ Val.lt b a = false) ↔ Val.eq a b = true := Val.incomparable_iff_eq a b

theorem total (a b : Val) : Val.lt a b = true ∨ Val.eq a b = true ∨ Val.lt b a = true := Val.tri a b

theorem eq_equivalence :
    (∀ a, Val.eq a a = true) ∧ (∀ a b, Val.eq a b = Val.eq b a) ∧
    (∀ a b c, Val.eq a b = true → Val.eq b c = true → Val.eq a c = true) :=
  ⟨Val.eq_refl, Val.eq_symm, Val.eq_trans⟩

theorem lt_congr_eq (a a' b b' : Val) (ha : Val.eq a a' = true) (hb : Val.eq b b' = true) :
    Val.lt a b = Val.lt a' b' := by
  rw [Val.lt_congr_left a a' b ha, Val.lt_congr_right a' b b' hb]

/-- negative transitivity: the form in which sort, merge and the set operations use the order -/
theorem le_trans (a b c : Val) : Val.lt b a = false → Val.lt c b = false → Val.lt c a = false :=
  Val.le_trans a b c

/-! #### the documented shape of the order -/

theorem none_first (b : Val) : Val.lt b .none = false ∧ (Val.lt .none b = true ↔ Val.eq .none b = false) := by
  cases b <;> simp [Val.lt, Val.eq]

theorem numbers_before_rest (ty : NumTy) (n : Num) (b : Val) :
    (∀ ty' n', b ≠ .num ty' n') → b ≠ .none → Val.lt (.num ty n) b = true ∧ Val.lt b (.num ty n) = false := by
  cases b <;> simp [Val.lt]

theorem numbers_by_value (t1 t2 : NumTy) (p q : Rat) :
    Val.lt (.num t1 (.fin p)) (.num t2 (.fin q)) = decide (p < q) ∧
    Val.eq (.num t1 (.fin p)) (.num t2 (.fin q)) = decide (p = q) := by
  simp [Val.lt, Val.eq, Num.lt, Num.eq]

theorem bytes_before_text (x y : List Nat) :
    Val.lt (.bytes x) (.str y) = true ∧ Val.lt (.str y) (.bytes x) = false := by
  -- the kinds of bytes and str
  have h := Val.tri_of_kind_lt (a := .bytes x) (b := .str y) (by decide : 4 < 7)
  exact ⟨h.1, h.2.2.2⟩

theorem seq_elementwise (l1 l2 : Bool) (a b : Val) (as bs : List Val) :
    Val.lt (.seq l1 (a :: as)) (.seq l2 (b :: bs)) =
      (if Val.eq a b then Val.lt (.seq l1 as) (.seq l2 bs) else Val.lt a b) ∧
    Val.lt (.seq l1 []) (.seq l2 (b :: bs)) = true ∧
    Val.lt (.seq l1 (a :: as)) (.seq l2 []) = false ∧
    Val.lt (.seq l1 []) (.seq l2 []) = false := by
  simp [Val.lt_seq, Val.ltList]

theorem list_tuple_identified (xs : List Val) : Val.eq (.seq true xs) (.seq false xs) = true :=
  Val.eqList_refl xs

/-! #### the derived operators are consistent with `<` and `==` -/

theorem gt_iff_lt_swap (a b : Val) : Val.gt a b = Val.lt b a := Val.gt_eq_lt a b

theorem ge_iff_le_swap (a b : Val) : Val.ge a b = Val.le b a := Val.ge_eq_le a b

theorem le_total (a b : Val) : Val.le a b = true ∨ Val.le b a = true := by
  unfold Val.le
  rcases Val.tri a b with h | h | h <;> simp [h]

theorem exactly_one (a b : Val) :
    (Val.lt a b = true ∧ Val.eq a b = false ∧ Val.gt a b = false) ∨
    (Val.lt a b = false ∧ Val.eq a b = true ∧ Val.gt a b = false) ∨
    (Val.lt a b = false ∧ Val.eq a b = false ∧ Val.gt a b = true) := by
  rw [gt_iff_lt_swap]
  rcases Val.trichotomy a b with ⟨h1, h2, _, h3⟩ | ⟨h1, h2, _, h3⟩ | ⟨h1, h2, _, h3⟩
  · exact .inl ⟨h1, h2, h3⟩
  · exact .inr (.inl ⟨h1, h2, h3⟩)
  · exact .inr (.inr ⟨h1, h2, h3⟩)

/-- missing key cells read as None and therefore sort first -/
theorem getKey_missing_none (row : Row) (i : Nat) (h : row.length ≤ i) : getKey [i] row = .none := by
  simp [getKey, getCell, List.getD, List.getElem?_eq_none h]

/-! #### bridge: `Val.lt` etc. are what the ladder generated from petl/comparison.py computes -/

/-- the ladder's type tests are tests on `Val.kind` (None 0, numbers 1, bytes 4, str 7), whatever the Python
    type of a number -/
theorem tests_eq (x : Val) :
    Gen.isNone x = decide (x.kind = 0) ∧ Gen.isNumeric x = decide (x.kind = 1) ∧
    Gen.isBinary x = decide (x.kind = 4) ∧ Gen.isText x = decide (x.kind = 7) := by
  rcases x with _ | ⟨_ | _ | _ | _, _⟩ | _ | _ | _ | _ | _ | _ <;>
    simp [Gen.isNone, Gen.isNumeric, Gen.isBinary, Gen.isText, Gen.pyTypeName, Gen.numericTypes,
      Gen.textType, Gen.binaryType, Val.kind, Val.rank]

theorem bridge_lt (a b : Val) : Gen.ltStep (Gen.nativeOf Val.ltList) a b = Val.lt a b := by
  cases a <;> cases b <;>
    simp [Gen.ltStep, tests_eq, Val.kind, Val.rank, Gen.nativeOf, Gen.typestr, Gen.pyTypeName, Val.lt]

theorem bridge_le (a b : Val) : Gen.le Val.lt Val.eq a b = Val.le a b := by simp [Gen.le, Val.le]
theorem bridge_gt (a b : Val) : Gen.gt Val.lt Val.eq a b = Val.gt a b := by simp [Gen.gt, Val.gt]
theorem bridge_ge (a b : Val) : Gen.ge Val.lt Val.eq a b = Val.ge a b := by simp [Gen.ge, Val.ge]

/-! #### non-vacuity: the theorems speak about non-trivial values -/

example : Val.lt (.seq false [.num .int (.fin 1), .none]) (.seq true [.num .bool (.fin 1), .str [97]]) = true := by
  decide
example : Val.eq (.num .int (.fin 1)) (.num .float (.fin 1)) = true ∧
    Val.lt (.date 5) (.datetime 0) = true ∧ Val.lt (.str []) (.seq false []) = false := by decide

end Petl.C04
