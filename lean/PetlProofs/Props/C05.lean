/-
  C05 — sort/mergesort: stable ordered permutation, same under every buffering strategy.
-/
import PetlProofs.Sort

import Petl.Basics

namespace Petl.C05

/-- Every buffer size ≥ 1 gives exactly the in-memory result (hence all buffer sizes agree,
    including buffersize = nrows, nrows ± 1): whole view, header and error behaviour included. -/
theorem sort_buffersize_irrelevant (t : Table) (key : Option (List FSpec)) (reverse : Bool)
    (b : Nat) (hb : 1 ≤ b) : sortView t key reverse (some b) = sortView t key reverse none := by
  have h : ∀ idx rows, sortRows (rowLe idx reverse) (some b) rows = sortRows (rowLe idx reverse) none rows :=
    fun idx rows => sortRows_eq_mergeSort (rowLe_totalPre idx reverse) b hb rows
  unfold sortView
  simp only [h]

theorem sort_any_two_buffersizes (t : Table) (key : Option (List FSpec)) (reverse : Bool)
    (b b' : Nat) (hb : 1 ≤ b) (hb' : 1 ≤ b') :
    sortView t key reverse (some b) = sortView t key reverse (some b') := by
  rw [sort_buffersize_irrelevant t key reverse b hb, sort_buffersize_irrelevant t key reverse b' hb']

/-- The data rows delivered are the stable sort of the input data rows under the C04 ordering of the
    key: ordered (non-decreasing, or non-increasing with reverse), and each class of equal keys in
    input order. Chunked or not. -/
theorem sortRows_stable_sort (idx : List Nat) (reverse : Bool) (bs : Option Nat)
    (hbs : ∀ b, bs = some b → 1 ≤ b) (rows : List Row) :
    IsStableSortOf (rowLe idx reverse) (sortRows (rowLe idx reverse) bs rows) rows :=
  sortRows_isStableSort (rowLe_totalPre idx reverse) bs hbs rows

/-- … and a permutation of them (same multiset of rows). -/
theorem sortRows_perm (idx : List Nat) (reverse : Bool) (bs : Option Nat)
    (hbs : ∀ b, bs = some b → 1 ≤ b) (rows : List Row) :
    (sortRows (rowLe idx reverse) bs rows).Perm rows :=
  Petl.sortRows_perm idx reverse bs hbs rows

/-- ascending order in terms of `<` on keys: no later row has a strictly smaller key -/
theorem sort_ascending (idx : List Nat) (bs : Option Nat) (hbs : ∀ b, bs = some b → 1 ≤ b) (rows : List Row) :
    (sortRows (rowLe idx false) bs rows).Pairwise (fun a b => Val.lt (getKey idx b) (getKey idx a) = false) :=
  sortRows_sorted idx bs hbs rows

theorem sort_descending (idx : List Nat) (bs : Option Nat) (hbs : ∀ b, bs = some b → 1 ≤ b) (rows : List Row) :
    (sortRows (rowLe idx true) bs rows).Pairwise (fun a b => Val.lt (getKey idx a) (getKey idx b) = false) := by
  simpa [SortedL, rowLe] using (sortRows_stable_sort idx true bs hbs rows).1

/-- the output is determined by the specification alone -/
theorem stable_sort_unique (idx : List Nat) (reverse : Bool) (o1 o2 inp : List Row)
    (h1 : IsStableSortOf (rowLe idx reverse) o1 inp) (h2 : IsStableSortOf (rowLe idx reverse) o2 inp) : o1 = o2 :=
  h1.unique (rowLe_totalPre idx reverse) h2

/-- mergesort of several tables (each sorted separately, any buffer size, then merged) equals the sort
    of their concatenation — for any number of tables of any lengths (tables over one header). -/
theorem mergesort_eq_sort_cat (idx : List Nat) (reverse : Bool) (tables : List (List Row)) :
    mergeSorted (rowLe idx reverse) (tables.map (fun t => t.mergeSort (rowLe idx reverse)))
      = (tables.flatten).mergeSort (rowLe idx reverse) :=
  kmerge_sorted_pieces (rowLe_totalPre idx reverse) tables

/-- the same for tables with different fields (the behaviour repaired in /repo 2f346d7, `Petl.mergesortH`): each table
    is rearranged to the output header before it is sorted, so the merge is the sort of what `cat` delivers —
    whatever the key (positional, none, a field some table lacks), `missing` and the buffer size -/
theorem mergesort_differing_fields_eq_sort_cat (idx : List Nat) (reverse : Bool) (bs : Option Nat)
    (hbs : ∀ b, bs = some b → 1 ≤ b) (outhdr : Row) (missing : Val) (ts : List Table) :
    mergesortH idx reverse bs outhdr missing ts
      = ((ts.map (catRows outhdr missing)).flatten).mergeSort (rowLe idx reverse) := by
  unfold mergesortH
  simp only [sortRows_eq (rowLe_totalPre idx reverse) bs hbs]
  rw [← mergesort_eq_sort_cat, List.map_map]
  rfl

/-- … and `cat` delivers exactly that concatenation -/
theorem cat_rows (missing : Val) (ts : List Table) :
    catView missing none ts
      = .ok (catHeader (ts.map (fun t => t.headD [])) ::
              (ts.map (catRows (catHeader (ts.map (fun t => t.headD []))) missing)).flatten) := rfl

/-- with presorted inputs the merge alone already gives the sort of the concatenation -/
theorem mergesort_presorted (idx : List Nat) (reverse : Bool) (tables : List (List Row))
    (hs : ∀ t ∈ tables, SortedL (rowLe idx reverse) t) :
    mergeSorted (rowLe idx reverse) tables = (tables.flatten).mergeSort (rowLe idx reverse) :=
  mergeSorted_eq_mergeSort (rowLe_totalPre idx reverse) tables hs

/-- sorting an already sorted list changes nothing (the fact behind `presorted=True`, C11) -/
theorem sort_of_sorted (idx : List Nat) (reverse : Bool) (rows : List Row)
    (hs : SortedL (rowLe idx reverse) rows) : rows.mergeSort (rowLe idx reverse) = rows :=
  List.mergeSort_of_pairwise hs

/-! non-vacuity: the hypotheses hold for every key and direction, and distinct rows with equal
    keys exist (so stability says something), also when a key cell is missing -/
example : TotalPre (rowLe [0, 2] true) ∧ (1 : Nat) ≤ 2 := ⟨rowLe_totalPre _ _, by omega⟩
example :
    rowLe [0] false [.num .int (.fin 1), .str [98]] [.num .float (.fin 1), .str [99]] = true ∧
    rowLe [0] false [.num .float (.fin 1), .str [99]] [.num .int (.fin 1), .str [98]] = true ∧
    rowLe [0] false [] [.num .int (.fin 1)] = true ∧ rowLe [0] false [.num .int (.fin 1)] [] = false := by
  decide

end Petl.C05
