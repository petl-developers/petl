/-
  C18 — temporary files live exactly as long as something can still read them.

  Model: Petl/TempFiles.lean (reference-counted chunk files of an external sort: holders are the
  view's file cache and the frames of running / cache-reading generators).  Histories are arbitrary
  sequences of `new`, `next i`, `drop i` (abandon an iterator at any point), `dropView`; the source
  may fail at any row (`failAt`), caching may be on or off.
-/
import PetlProofs.TempFiles

namespace Petl.C18

/-- after every history: every file that some holder can still reach exists, and every existing
    file is reachable from some holder -/
theorem files_are_exactly_held (p : TFParams) (ops : List TFOp) :
    (∀ c ∈ (tfRun p ops).1.holders, c ∈ (tfRun p ops).1.files) ∧
    (∀ f ∈ (tfRun p ops).1.files, f ∈ (tfRun p ops).1.holders) :=
  tfRun_inv p ops

/-- no leak: once the view and all iterators have been released (finished, failed or abandoned at
    any row), every temporary file is gone — whatever happened before -/
theorem no_leak (p : TFParams) (ops : List TFOp)
    (hv : (tfRun p ops).1.userHoldsView = false)
    (hi : ∀ it ∈ (tfRun p ops).1.iters, it.alive = false) :
    (tfRun p ops).1.files = [] := by
  apply List.eq_nil_iff_forall_not_mem.2
  intro f hf
  -- `f` would be held by the view, which is unreachable, or by an iterator, which is dead
  rcases (mem_holders _ f).1 ((tfRun_inv p ops).2 f hf) with ⟨hr, _⟩ | ⟨it, hit, hch⟩
  · obtain ⟨it, hit, ha⟩ := ((viewReachable_iff _).1 hr).resolve_left (hv ▸ nofun)
    rw [hi it hit] at ha; cases ha
  · match it, hi it hit with
    | .dead, _ => cases hch

theorem chunks_exist {s : TFState} (hinv : TFInv s) {i : Nat} {cs : List Nat} {pos : Nat}
    (h : s.iters[i]? = some (.fromFile cs pos)) : cs.all (fun c => s.files.contains c) = true :=
  List.all_eq_true.2 fun c hc => List.contains_iff_mem.2 <|
    hinv.1 c ((mem_holders s c).2 (.inr ⟨_, List.mem_of_getElem? h, hc⟩))

/-- an iterator served from the file cache — also one that outlives its view or other iterators
    that cleared the cache — finds all its chunk files and yields the complete sequence -/
theorem live_reader_complete (p : TFParams) (ops : List TFOp) (i : Nat) (cs : List Nat) (pos : Nat)
    (h : (tfRun p ops).1.iters[i]? = some (.fromFile cs pos)) :
    (tfStep p (tfRun p ops).1 (.next i)).2 =
      (if pos = 0 then .row 0 else if pos ≤ p.nrows then .row pos else .stop) := by
  simp only [tfStep, h, chunks_exist (tfRun_inv p ops) h, if_true, apply_ite Prod.snd]

/-- hence no history ever makes a cache-reading iterator fail for a missing file -/
theorem never_crashes (p : TFParams) (ops : List TFOp) (op : TFOp) :
    (tfStep p (tfRun p ops).1 op).2 ≠ .crash := by
  -- `tfStep` answers `.crash` in one branch only: a cache-reading iterator that misses a chunk file
  fun_cases tfStep p (tfRun p ops).1 op <;> intro hc <;> cases hc
  next hmiss hi => exact hmiss (chunks_exist (tfRun_inv p ops) hi)

/-- a source failure while the chunks are being written leaves no file behind once the failed
    iterator and the view are released (instance of `no_leak`; stated for the record) -/
theorem failure_leaves_nothing (p : TFParams) (ops : List TFOp)
    (hv : (tfRun p ops).1.userHoldsView = false) (hi : ∀ it ∈ (tfRun p ops).1.iters, it.alive = false) :
    (tfRun p ops).1.files.length = 0 := by
  rw [no_leak p ops hv hi]; rfl

/-! non-vacuity: a cached external sort whose first reader is abandoned, a second reader from the
    file cache outlives the view -/
example :
    let p : TFParams := { nrows := 3, buffersize := 2, cache := true, failAt := none }
    let r := tfRun p [.new, .next 0, .next 0, .new, .drop 0, .dropView, .next 1, .next 1]
    r.1.files.length = 2 ∧ r.2.getLast? = some (.row 1) := by decide

example :
    let p : TFParams := { nrows := 3, buffersize := 2, cache := true, failAt := none }
    (tfRun p [.new, .next 0, .next 0, .new, .drop 0, .dropView, .next 1, .drop 1]).1.files = [] := by decide

end Petl.C18
