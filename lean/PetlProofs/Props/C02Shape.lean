/-
  C02, tie by translation: the pull shape of every generator function.

  `Gen.pullShapes` is regenerated from /repo on every run by translators/pullshape.py.  For each function Lean computes
  `summary` = (the look-ahead bound `k` of `Petl.PullShape.bound`, if one is derived; whether a source is handed to code
  the analysis does not follow).  `pull_shapes_as_expected` pins that table: an edit that makes a streaming function
  read ahead (buffering, an extra `next`, a loop over the source that does not yield), or that hands its source to
  something else, changes its entry.  `bounded_functions_never_scan_ahead` is what an entry `some k` means, for every
  execution of the IR program and every point of it: pulls ≤ yields + k.

  Entries with `none`: filters (`select*`, `search`, `duplicates`/`unique`/`conflicts`/`distinct`, inner and anti joins
  on the streamed side — how many rows are read per row delivered depends on the data, `Petl.C02.filter_pulls`),
  operators that may deliver no row for a source row (`melt` without value fields, `flatten` of empty rows, `rowmap`
  with failonerror=False), the build side of the hash operators and the blocking operators (the allowed list of
  `iterators_materialise_only_where_allowed`).  The table is a reviewed snapshot: retake it (tools/pullshape_snapshot.py)
  only after reading the diff.
-/
import Petl.Gen.PullShapes
import Petl.Gen.PullShapeSelfTest
import PetlProofs.PullShape
namespace Petl.C02
open Petl.PullShape

/-- (function[@operand], look-ahead bound if derived, hands a source to unanalysed code) -/
def expectedShapes : List (String × Option Int × Bool) := [
  ("transform.basics.itercut", some 1, false),
  ("transform.basics.itercutout", some 1, false),
  ("transform.basics.itercat", some 1, false),
  ("transform.basics.iterstack", some 1, false),
  ("transform.basics.iteraddfield", some 1, false),
  ("transform.basics.iteraddfields", some 1, false),
  ("transform.basics.iterrowslice", none, false),
  ("transform.basics.itertail", none, false),
  ("transform.basics.MoveFieldView.__iter__", some 1, false),
  ("transform.basics.iterannex", some 1, false),
  ("transform.basics.iteraddrownumbers", some 1, false),
  ("transform.basics.iteraddcolumn", some 1, false),
  ("transform.basics.iteraddfieldusingcontext", some 2, false),
  ("transform.conversions.iterfieldconvert", some 2, false),
  ("transform.dedup.iterduplicates", none, false),
  ("transform.dedup.iterunique", none, false),
  ("transform.dedup.iterconflicts", none, false),
  ("transform.dedup.DistinctView.__iter__", none, false),
  ("transform.fills.iterfilldown", some 1, false),
  ("transform.fills.iterfillright", some 1, false),
  ("transform.fills.iterfillleft", some 1, false),
  ("transform.hashjoins.iterhashjoin@left", none, false),
  ("transform.hashjoins.iterhashjoin@right", some 1, false),
  ("transform.hashjoins.iterhashleftjoin@left", none, false),
  ("transform.hashjoins.iterhashleftjoin@right", some 1, false),
  ("transform.hashjoins.iterhashrightjoin@left", some 1, false),
  ("transform.hashjoins.iterhashrightjoin@right", none, false),
  ("transform.hashjoins.iterhashantijoin@left", none, false),
  ("transform.hashjoins.iterhashantijoin@right", none, false),
  ("transform.hashjoins.iterhashlookupjoin@left", some 1, false),
  ("transform.hashjoins.iterhashlookupjoin@right", none, true),
  ("transform.headers.iterrename", some 1, false),
  ("transform.headers.itersetheader", some 1, false),
  ("transform.headers.iterextendheader", some 1, false),
  ("transform.headers.iterpushheader", some 0, false),
  ("transform.headers.PrefixHeaderView.__iter__", some 1, false),
  ("transform.headers.SuffixHeaderView.__iter__", some 1, false),
  ("transform.headers.SortHeaderView.__iter__", some 1, false),
  ("transform.joins.iterjoin@left", none, false),
  ("transform.joins.iterjoin@right", none, false),
  ("transform.joins.itercrossjoin", none, true),
  ("transform.joins.iterantijoin@left", none, false),
  ("transform.joins.iterantijoin@right", none, false),
  ("transform.joins.iterlookupjoin@left", none, false),
  ("transform.joins.iterlookupjoin@right", none, false),
  ("transform.joins.ConvertToIncrementingCounterView.__iter__", none, false),
  ("transform.joins.EnumerateDistinctView.__iter__", some 0, false),
  ("transform.maps.iterfieldmap", some 1, false),
  ("transform.maps.iterrowmap", none, false),
  ("transform.maps.iterrowmapmany", none, false),
  ("transform.maps.iterrowgroupmap", none, false),
  ("transform.reductions.iterrowreduce", some 0, false),
  ("transform.reductions.itersimpleaggregate", none, true),
  ("transform.reductions.itermultiaggregate", some 1, false),
  ("transform.reductions.itermergeduplicates", some 0, false),
  ("transform.reductions.iterfold", some 0, false),
  ("transform.regex.itercapture", some 1, false),
  ("transform.regex.itersplit", some 1, false),
  ("transform.regex.itersearch", none, false),
  ("transform.regex.itersplitdown", none, false),
  ("transform.reshape.itermelt", none, false),
  ("transform.reshape.iterrecast", none, true),
  ("transform.reshape.itertranspose", none, true),
  ("transform.reshape.iterpivot", none, true),
  ("transform.reshape.FlattenView.__iter__", some 0, false),
  ("transform.reshape.UnflattenView.__iter__", none, false),
  ("transform.selects.iterfieldselect", none, false),
  ("transform.selects.iterrowselect", none, false),
  ("transform.selects.iterselectusingcontext", none, false),
  ("transform.setops.itercomplement", some 0, false),
  ("transform.setops.iterintersection@a", none, true),
  ("transform.setops.iterintersection@b", none, true),
  ("transform.setops.iterhashcomplement@a", none, false),
  ("transform.setops.iterhashcomplement@b", none, true),
  ("transform.setops.iterhashintersection@a", none, false),
  ("transform.setops.iterhashintersection@b", none, true),
  ("transform.sorts._iterchunk", some 0, false),
  ("transform.sorts._heapqmergesorted", some 0, false),
  ("transform.sorts._shortlistmergesorted", some 0, false),
  ("transform.sorts.SortView._iterfrommemcache", some 0, false),
  ("transform.sorts.SortView._iterfromfilecache", some 0, false),
  ("transform.sorts.SortView._iternocache", none, true),
  ("transform.sorts._standardisedata", some 1, false),
  ("transform.sorts._MergeSortInput.__iter__", none, true),
  ("transform.sorts.itermergesort", none, true),
  ("transform.unpacks.iterunpack", some 1, false),
  ("transform.unpacks.iterunpackdict", none, true),
  ("transform.validation.iterproblems", none, false),
  ("util.base.itervalues", some 2, false),
  ("util.base.iterdicts", none, false),
  ("util.base.iternamedtuples", none, false),
  ("util.base.iterrecords", none, false),
  ("util.base.EmptyTable.__iter__", some 0, false),
  ("util.materialise.CacheView.__iter__", none, false),
  ("util.timing.ProgressViewBase.__iter__", some 0, false),
  ("util.timing.ClockView.__iter__", some 1, false),
  ("io.base.itercolumns", some 0, false),
  ("io.csv_py3.CSVView.__iter__", some 0, false),
  ("io.csv_py3.TeeCSVView.__iter__", some 1, false),
  ("io.html.TeeHTMLView.__iter__", some 2, false),
  ("io.json.JsonView.__iter__", some 0, false),
  ("io.json.DictsGeneratorView.__iter__", some 0, false),
  ("io.json.iterjlines", some 0, false),
  ("io.json.iterdicts", none, true),
  ("io.pickle.PickleView.__iter__", some 0, false),
  ("io.pickle.TeePickleView.__iter__", some 1, false),
  ("io.text.TextView.__iter__", some 0, false),
  ("io.text._iterteetext", some 1, false)
]

theorem pull_shapes_as_expected :
    Gen.pullShapes.map (fun f => (f.1, summary f.2)) = expectedShapes := by rfl

/-- what a derived bound means: at every point of every execution, rows taken ≤ rows delivered + k -/
theorem bounded_never_scans_ahead (p : PS) (n k : Int) (hb : bound p = some (n, k))
    (tr : List Ev) (hr : Run p tr) (pre : List Ev) (hp : pre <+: tr) :
    (pulls pre : Int) ≤ (ylds pre : Int) + k := by
  have h1 : net pre ≤ k := (Within.of_prefix hp (bound_sound hr n k hb)).1
  rw [net_eq_pulls_sub_ylds] at h1
  omega

theorem bounded_functions_never_scan_ahead :
    ∀ f ∈ Gen.pullShapes, ∀ n k, bound f.2 = some (n, k) →
      ∀ tr, Run f.2 tr → ∀ pre, pre <+: tr → (pulls pre : Int) ≤ (ylds pre : Int) + k :=
  fun f _ => bounded_never_scans_ahead f.2

/-- the translator on its own reference snippets (one-to-one, guarded header, filter, buffering, reading ahead, draining,
    materialising, slices with a step, several sources in turn, expanding, delegating, early return, no source):
    each translation has the look-ahead bound and the opacity written next to the snippet -/
theorem pullshape_selftest :
    ∀ c ∈ Gen.pullShapeSelfTest, summary c.2.1 = (c.2.2.1, c.2.2.2) := by decide +kernel

/-- the one-to-one streaming loop `hdr = next(it); yield hdr'; for row in it: yield f(row)` has look-ahead 1 … -/
example : bound (.seq .pull (.seq .yld (.forSrc .yld))) = some (0, 1) := by decide
/-- … a loop that buffers two rows per row delivered has none … -/
example : bound (.seq .pull (.seq .yld (.forSrc (.seq .pull .yld)))) = none := by decide
/-- … nor has a filter, nor a loop that first drains the source -/
example : bound (.forSrc (.branch .yld .skip)) = none := by decide
example : bound (.seq (.forSrc .skip) (.loop .yld)) = none := by decide
/-- the hypotheses of `bounded_never_scans_ahead` are satisfiable, and the bound is tight -/
example : Run (.seq .pull (.seq .yld (.forSrc .yld))) [.pull, .yld, .pull, .yld] := by
  have h : Run (.forSrc .yld) [.pull, .yld] := Run.forCons (t1 := [.yld]) (t2 := []) Run.yld Run.forNil
  exact Run.seq Run.pull (Run.seq Run.yld h)
example : pulls [Ev.pull, .yld, .pull] = ylds [Ev.pull, .yld, .pull] + 1 := by decide

end Petl.C02
