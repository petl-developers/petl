/-
  C19 — the failonerror policy decides exactly what a failing conversion becomes.
  Converters / mappers are arbitrary partial functions; any set of failing rows and fields.
-/
import Petl.ErrPolicy

namespace Petl.C19

/-- what a cell becomes when nothing is raised: `onErr` replaces a failing conversion -/
def cellOut (onErr : Err → Val) (conv : Option Conv) (v : Val) : Val :=
  match conv with
  | none => v
  | some c => match c v with | .ok w => w | .error e => onErr e

def rowOut (onErr : Err → Val) (convs : Nat → Option Conv) : Nat → Row → Row
  | _, [] => []
  | i, v :: vs => cellOut onErr (convs i) v :: rowOut onErr convs (i + 1) vs

def cellFails (conv : Option Conv) (v : Val) : Bool :=
  match conv with
  | none => false
  | some c => match c v with | .ok _ => false | .error _ => true

def rowFails (convs : Nat → Option Conv) : Nat → Row → Bool
  | _, [] => false
  | i, v :: vs => cellFails (convs i) v || rowFails convs (i + 1) vs

theorem rowOut_eq_mapIdx (onErr : Err → Val) (convs : Nat → Option Conv) (r : Row) (i : Nat) :
    rowOut onErr convs i r = r.mapIdx (fun j v => cellOut onErr (convs (i + j)) v) := by
  induction r generalizing i with
  | nil => rfl
  | cons v vs ih =>
    rw [rowOut, ih, List.mapIdx_cons]
    simp only [Nat.add_zero, Nat.add_right_comm i 1, Nat.add_assoc]

def Replaces (pol : Policy) (ev : Val) (onErr : Err → Val) : Prop :=
  ∀ (c : Conv) v e, c v = .error e → transformValue pol ev (some c) v = .ok (onErr e)

theorem replaces_suppress (ev : Val) : Replaces .suppress ev (fun _ => ev) :=
  fun c v e h => by simp only [transformValue, h]
theorem replaces_inline (ev : Val) : Replaces .inline ev excVal :=
  fun c v e h => by simp only [transformValue, h]

theorem transformValue_ok {pol : Policy} {ev : Val} {conv : Option Conv} {v : Val} {onErr : Err → Val} :
    cellFails conv v = false ∨ Replaces pol ev onErr →
    transformValue pol ev conv v = .ok (cellOut onErr conv v) := by
  -- no converter; the converter succeeds; it fails
  fun_cases cellFails conv v
  · exact fun _ => rfl
  · exact fun _ => by simp only [transformValue, cellOut, *]
  · rintro (h | h)
    · cases h
    · rw [h _ v _ ‹_›]; simp only [cellOut, *]

theorem transformValue_raise {ev : Val} {conv : Option Conv} {v : Val} :
    cellFails conv v = true → ∃ e, transformValue .raise ev conv v = .error e := by
  fun_cases cellFails conv v
  · nofun
  · nofun
  · intro _; simp only [transformValue, *]; exact ⟨_, rfl⟩

theorem transformCells_ok {pol : Policy} {ev : Val} {convs : Nat → Option Conv} {onErr : Err → Val} (r : Row) (i : Nat)
    (h : rowFails convs i r = false ∨ Replaces pol ev onErr) :
    transformCells pol ev convs i r = .ok (rowOut onErr convs i r) := by
  induction r generalizing i with
  | nil => rfl
  | cons v vs ih =>
    rw [transformCells, transformValue_ok (h.imp_left fun h => (Bool.or_eq_false_iff.mp h).1),
      ih (i + 1) (h.imp_left fun h => (Bool.or_eq_false_iff.mp h).2)]
    rfl

theorem transformCells_raise {ev : Val} {convs : Nat → Option Conv} (r : Row) (i : Nat) (h : rowFails convs i r = true) :
    ∃ e, transformCells .raise ev convs i r = .error e := by
  induction r generalizing i with
  | nil => cases h
  | cons v vs ih =>
    rw [transformCells]
    cases hc : cellFails (convs i) v with
    | true => obtain ⟨e, he⟩ := transformValue_raise (ev := ev) hc; exact ⟨e, by rw [he]⟩
    | false =>
      obtain ⟨e, he⟩ := ih (i + 1) (by simpa [rowFails, hc] using h)
      exact ⟨e, by rw [transformValue_ok (onErr := excVal) (.inl hc), he]; rfl⟩

theorem convertRows_ok {pol : Policy} {ev : Val} {onErr : Err → Val} (h : Replaces pol ev onErr)
    (convs : Nat → Option Conv) (rows : List Row) :
    convertRows pol ev convs rows = (rows.map (rowOut onErr convs 0), none) := by
  induction rows with
  | nil => rfl
  | cons r rs ih => rw [convertRows, transformCells_ok r 0 (.inr h), ih]; rfl

/-- failonerror=False: nothing is raised, every row is kept (same number, same order), a failing
    cell becomes errorvalue and every other cell is its conversion -/
theorem policy_false_total (ev : Val) (convs : Nat → Option Conv) (rows : List Row) :
    convertRows .suppress ev convs rows = (rows.map (rowOut (fun _ => ev) convs 0), none) :=
  convertRows_ok (replaces_suppress ev) convs rows

/-- failonerror='inline': as above with the exception object in the failing cell -/
theorem policy_inline_cell (ev : Val) (convs : Nat → Option Conv) (rows : List Row) :
    convertRows .inline ev convs rows = (rows.map (rowOut excVal convs 0), none) :=
  convertRows_ok (replaces_inline ev) convs rows

/-- failonerror=True: exactly the rows before the first failing row are delivered (converted),
    then the exception surfaces; with no failing row the whole table is delivered -/
theorem policy_true_prefix (ev : Val) (convs : Nat → Option Conv) (rows : List Row) (onErr : Err → Val) :
    (convertRows .raise ev convs rows).1 =
      (rows.takeWhile (fun r => !rowFails convs 0 r)).map (rowOut onErr convs 0) ∧
    ((convertRows .raise ev convs rows).2 = none ↔ rows.all (fun r => !rowFails convs 0 r) = true) := by
  induction rows with
  | nil => simp [convertRows]
  | cons r rs ih =>
    cases hf : rowFails convs 0 r
    · rw [convertRows, transformCells_ok r 0 (.inl hf)]
      simp only [List.takeWhile_cons, hf, Bool.not_false, if_true, List.map_cons, List.all_cons, Bool.true_and]
      exact ⟨by rw [← ih.1], ih.2⟩
    · obtain ⟨e, he⟩ := transformCells_raise (ev := ev) r 0 hf
      rw [convertRows, he]
      simp [hf]

/-- rows without a failing cell are converted identically under all three policies -/
theorem nonfailing_identical_across_policies (pol : Policy) (ev : Val) (convs : Nat → Option Conv) (r : Row)
    (h : rowFails convs 0 r = false) :
    transformCells pol ev convs 0 r = transformCells .raise ev convs 0 r := by
  rw [transformCells_ok (onErr := excVal) r 0 (.inl h), transformCells_ok (onErr := excVal) r 0 (.inl h)]

/-- … and a non-failing cell of a failing row is the same under the two non-raising policies -/
theorem nonfailing_cell_same (ev : Val) (conv : Option Conv) (v : Val) (h : cellFails conv v = false) :
    cellOut (fun _ => ev) conv v = cellOut excVal conv v :=
  Except.ok.inj ((transformValue_ok (pol := .raise) (ev := ev) (.inl h)).symm.trans (transformValue_ok (.inl h)))

/-- rowmap: False drops exactly the failing rows; True delivers the prefix then raises;
    'inline' delivers the exception as a one-cell row -/
theorem rowmap_policies (f : Row → Except Err Row) (rows : List Row) :
    rowmapRows .suppress f rows = (rows.filterMap (fun r => (f r).toOption), none) ∧
    (rowmapRows .inline f rows = (rows.map (fun r => match f r with | .ok r' => r' | .error e => [excVal e]), none)) ∧
    (rowmapRows .raise f rows).1 = (rows.takeWhile (fun r => (f r).toOption.isSome)).filterMap (fun r => (f r).toOption) := by
  induction rows with
  | nil => exact ⟨rfl, rfl, rfl⟩
  | cons r rs ih =>
    simp only [rowmapRows, List.map_cons, List.takeWhile_cons]
    cases hf : f r <;> simp [ih, Except.toOption, hf]

/-- rowmapmany with failonerror=False keeps the rows a generator produced before failing -/
theorem rowmapmany_keeps_produced (f : Row → List Row × Option Err) (rows : List Row) :
    rowmapmanyRows .suppress f rows = (rows.flatMap (fun r => (f r).1), none) := by
  induction rows with
  | nil => rfl
  | cons r rs ih =>
    simp only [rowmapmanyRows, List.flatMap_cons]
    rcases hf : f r with ⟨produced, e⟩
    cases e <;> simp [ih]

/-- the global default is consulted when the view is built, never when it is iterated -/
theorem default_from_config_at_construction (arg : Option Policy) (cfg0 cfg1 : Policy) :
    (PolicyView.make arg cfg0).policyAtIteration cfg1 = arg.getD cfg0 := rfl

/-! non-vacuity: a converter that fails on some values and not on others -/
example : cellFails (some (failOn [.num .int (.fin 1)] .value)) (.num .float (.fin 1)) = true ∧
    cellFails (some (failOn [.num .int (.fin 1)] .value)) (.str [97]) = false := by decide

end Petl.C19
