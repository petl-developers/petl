/-
  Soundness of the pull-shape bound: `bound p = some (n, k)` bounds pulls − yields of every complete
  run (by n) and of every prefix of every run (by k).
-/
import Petl.PullShape
namespace Petl.PullShape

theorem net_append (a b : List Ev) : net (a ++ b) = net a + net b := by
  induction a with
  | nil => exact (Int.zero_add _).symm
  | cons e t ih => rw [List.cons_append, net, ih, net, Int.add_assoc]

theorem peak_nonneg (t : List Ev) : 0 ≤ peak t := by
  cases t with
  | nil => exact Int.le_refl _
  | cons e t => exact Int.le_max_left _ _

theorem peak_append (a b : List Ev) : peak (a ++ b) = max (peak a) (net a + peak b) := by
  induction a with
  | nil => rw [List.nil_append, peak, net, Int.zero_add, Int.max_eq_right (peak_nonneg b)]
  | cons e t ih =>
    rw [List.cons_append, peak, ih, peak, net, ← Int.max_add_left, Int.max_assoc, Int.add_assoc]

theorem net_le_peak (t : List Ev) : net t ≤ peak t := by
  induction t with
  | nil => exact Int.le_refl _
  | cons e t ih => exact Int.le_trans (Int.add_le_add_left ih _) (Int.le_max_right _ _)

theorem net_eq_pulls_sub_ylds (t : List Ev) : net t = (pulls t : Int) - (ylds t : Int) := by
  induction t with
  | nil => simp [net, pulls, ylds]
  | cons e t ih =>
    rw [net, ih]
    cases e <;> simp [delta, pulls, ylds] <;> omega

/-! ### traces within a bound

`bound` combines the bounds of the parts of a program the way `Within` combines along the traces: in sequence
(`append`), by weakening (`mono`: branches, a `try` whose body completes), over the rounds of a loop (`round`), at the
point where a `try` body is abandoned (`of_prefix`). -/

def Within (tr : List Ev) (n k : Int) : Prop := net tr ≤ n ∧ peak tr ≤ k

theorem Within.mono {tr : List Ev} {n k n' k' : Int} (h : Within tr n k) (hn : n ≤ n') (hk : k ≤ k') :
    Within tr n' k' := ⟨Int.le_trans h.1 hn, Int.le_trans h.2 hk⟩

theorem Within.append {t1 t2 : List Ev} {na pa nb pb : Int} (h1 : Within t1 na pa) (h2 : Within t2 nb pb) :
    Within (t1 ++ t2) (na + nb) (max pa (na + pb)) := by
  rw [Within, net_append, peak_append]
  exact ⟨Int.add_le_add h1.1 h2.1, Int.max_le.mpr
    ⟨Int.le_trans h1.2 (Int.le_max_left ..), Int.le_trans (Int.add_le_add h1.1 h2.2) (Int.le_max_right ..)⟩⟩

theorem Within.round {t1 t2 : List Ev} {n p K : Int} (h1 : Within t1 n p) (h2 : Within t2 0 K) (hn : n ≤ 0)
    (hp : p ≤ K) : Within (t1 ++ t2) 0 K :=
  (h1.append h2).mono (by omega) (Int.max_le.mpr ⟨hp, by omega⟩)

theorem Within.pull_cons {t : List Ev} {n k : Int} (h : Within t n k) : Within (.pull :: t) (1 + n) (max 0 (1 + k)) :=
  ⟨Int.add_le_add_left h.1 1, Int.max_le.mpr ⟨Int.le_max_left .., Int.le_trans (Int.add_le_add_left h.2 1) (Int.le_max_right ..)⟩⟩

/-- a prefix never exceeds the peak of the whole trace -/
theorem Within.of_prefix {p t : List Ev} {n k : Int} (hp : p <+: t) (h : Within t n k) : Within p k k := by
  obtain ⟨s, rfl⟩ := hp
  have hk : peak p ≤ k := Int.le_trans (Int.le_max_left ..) (peak_append p s ▸ h.2)
  exact ⟨Int.le_trans (net_le_peak p) hk, hk⟩

theorem bound_inv {p : PS} {n k : Int} : bound p = some (n, k) →
    match p with
    | .seq a b => ∃ na pa nb pb, bound a = some (na, pa) ∧ bound b = some (nb, pb) ∧ n = na + nb ∧ k = max pa (na + pb)
    | .branch a b => ∃ na pa nb pb, bound a = some (na, pa) ∧ bound b = some (nb, pb) ∧ n = max na nb ∧ k = max pa pb
    | .tryS b h =>
      ∃ nb pb nh ph, bound b = some (nb, pb) ∧ bound h = some (nh, ph) ∧ n = max nb (pb + nh) ∧ k = pb + max 0 ph
    | .forSrc b => ∃ nb pb, bound b = some (nb, pb) ∧ 1 + nb ≤ 0 ∧ n = 0 ∧ k = max 0 (1 + pb)
    | .loop b => ∃ nb pb, bound b = some (nb, pb) ∧ nb ≤ 0 ∧ n = 0 ∧ k = max 0 pb
    | _ => True := by
  -- the cases of `bound` in the order of its definition: where it returns a bound, the parts had theirs
  fun_cases bound p with
  | case1 | case2 | case3 | case4 => exact fun _ => trivial
  | case5 | case7 | case15 => rintro ⟨⟩; exact ⟨_, _, _, _, ‹_›, ‹_›, rfl, rfl⟩
  | case9 | case12 => rintro ⟨⟩; exact ⟨_, _, ‹_›, ‹_›, rfl, rfl⟩
  | case6 | case8 | case10 | case11 | case13 | case14 | case16 => nofun

theorem bound_sound {p : PS} {tr : List Ev} (h : Run p tr) :
    ∀ n k, bound p = some (n, k) → net tr ≤ n ∧ peak tr ≤ k := by
  intro n k hb
  show Within tr n k
  induction h generalizing n k with
  | skip | pull | yld => cases hb; exact ⟨Int.le_refl _, Int.le_refl _⟩
  | opq tr => cases hb
  | seq _ _ iha ihb =>
    obtain ⟨na, pa, nb, pb, ha', hb', rfl, rfl⟩ := bound_inv hb
    exact (iha _ _ ha').append (ihb _ _ hb')
  | brL _ ih =>
    obtain ⟨na, pa, nb, pb, ha', hb', rfl, rfl⟩ := bound_inv hb
    exact (ih _ _ ha').mono (Int.le_max_left ..) (Int.le_max_left ..)
  | brR _ ih =>
    obtain ⟨na, pa, nb, pb, ha', hb', rfl, rfl⟩ := bound_inv hb
    exact (ih _ _ hb').mono (Int.le_max_right ..) (Int.le_max_right ..)
  | forNil | loopNil =>
    obtain ⟨nb, pb, _, _, rfl, rfl⟩ := bound_inv hb
    exact ⟨Int.le_refl _, Int.le_max_left ..⟩
  | forCons _ _ ih1 ih2 =>
    obtain ⟨nb, pb, hb', hle, rfl, rfl⟩ := bound_inv hb
    exact (ih1 _ _ hb').pull_cons.round (ih2 _ _ hb) hle (Int.le_refl _)
  | loopCons _ _ ih1 ih2 =>
    obtain ⟨nb, pb, hb', hle, rfl, rfl⟩ := bound_inv hb
    exact (ih1 _ _ hb').round (ih2 _ _ hb) hle (Int.le_max_right ..)
  | tryOk _ ih =>
    obtain ⟨nb, pb, nh, ph, hb', hh', rfl, rfl⟩ := bound_inv hb
    exact (ih _ _ hb').mono (Int.le_max_left ..) (Int.le_add_of_nonneg_right (Int.le_max_left ..))
  | tryExc _ hp _ ih1 ih2 =>
    -- the body is abandoned at a prefix, which stays below the body's peak bound `pb`
    obtain ⟨nb, pb, nh, ph, hb', hh', rfl, rfl⟩ := bound_inv hb
    exact (((ih1 _ _ hb').of_prefix hp).append (ih2 _ _ hh')).mono (Int.le_max_right ..) (by omega)
end Petl.PullShape
