/-
  The csv codec is lossless on text: reading what the writer wrote returns the records, for QUOTE_MINIMAL and
  QUOTE_ALL and any delimiter / quotechar that differ and are not CR / LF (`read_write`; Props/C15Csv discharges the
  `RowCodecOK` hypothesis of C15 with it).

  The reader is two machines, the line splitting (`feed`) around the parser (`char`, `eol`).  They are taken apart
  first: away from a line break the splitting is idle and the character goes straight to the parser (`feed_ord`);
  "\r\n" is one line break (`run_crlf`); inside a quoted field the end-of-line marker does nothing, so line breaks
  are content (`feed_inQuoted`).  The writer's output is then run through the reader unit by unit, up to whole
  tables (`run_writeAll`).
-/
import Petl.Csv

namespace Petl.Csv
variable {d q : Nat} {qa : Bool}

structure Dialect (d q : Nat) : Prop where
  dq : d ≠ q
  dnl : isNL d = false
  qnl : isNL q = false

theorem run_append (ps : Pend × St) (a b : List Nat) : run d q ps (a ++ b) = run d q (run d q ps a) b :=
  List.foldl_append

theorem run_cons (ps : Pend × St) (c : Nat) (t : List Nat) : run d q ps (c :: t) = run d q (feed d q ps c) t := rfl

theorem isNL_false {c : Nat} (h : isNL c = false) : c ≠ CR ∧ c ≠ LF := by
  simpa [isNL] using h

theorem feed_ord {p : Pend} (s : St) {c : Nat} (hp : p ≠ .cr) (hc : isNL c = false) :
    feed d q (p, s) c = (.dirty, char d q s c) := by
  have ⟨h1, h2⟩ := isNL_false hc
  simp [feed, hp, h1, h2]

theorem run_crlf {p : Pend} (s : St) (hp : p ≠ .cr) :
    run d q (p, s) [CR, LF] = (.none, eol (char d q (char d q s CR) LF)) := by
  simp [run, feed, hp, CR, LF]

theorem feed_inQuoted (D : Dialect d q) (p : Pend) (s : St) (c : Nat) (hm : s.mode = .inQuoted) :
    ∃ p', feed d q (p, s) c = (p', char d q s c) ∧ (isNL c = false → p' = .dirty) := by
  have he : eol s = s := by simp [eol, hm]
  by_cases hl : c = LF
  · subst hl
    have hq : ¬ LF = q := Ne.symm (isNL_false D.qnl).2
    have : eol (char d q s LF) = char d q s LF := by simp [char, hm, hq, eol, St.add]
    exact ⟨.none, by simp [feed, this], by simp [isNL]⟩
  · by_cases hr : c = CR
    · subst hr
      exact ⟨.cr, by simp [feed, he, hl], by simp [isNL]⟩
    · exact ⟨.dirty, by simp [feed, he, hl, hr], fun _ => rfl⟩

theorem run_escape (D : Dialect d q) (f : Field) (p : Pend) (s : St) (hm : s.mode = .inQuoted) :
    ∃ p', run d q (p, s) (escape q f) = (p', { s with field := s.field ++ f }) := by
  induction f generalizing p s with
  | nil => exact ⟨p, by simp [escape, run]⟩
  | cons c f ih =>
    obtain ⟨p1, h1, hp1⟩ := feed_inQuoted D p s c hm
    by_cases hc : c = q
    · -- a doubled quote: the first leaves the quoted mode, the second returns to it
      subst hc
      obtain ⟨p', h3⟩ := ih .dirty { s.add c with mode := .inQuoted } rfl
      refine ⟨p', ?_⟩
      have : escape c (c :: f) = c :: c :: escape c f := by simp [escape]
      rw [this, run_cons, h1, hp1 D.qnl, run_cons, feed_ord _ (by simp) D.qnl]
      simpa [char, hm, St.add] using h3
    · obtain ⟨p', h3⟩ := ih p1 (s.add c) hm
      refine ⟨p', ?_⟩
      have : escape q (c :: f) = c :: escape q f := by simp [escape, hc]
      rw [this, run_cons, h1]
      simpa [char, hm, hc, St.add] using h3

def Plain (d q : Nat) (c : Nat) : Prop := c ≠ d ∧ c ≠ q ∧ isNL c = false

theorem plain_of_needsQuote {f : Field} (h : needsQuote d q f = false) : ∀ c ∈ f, Plain d q c := by
  intro c hc
  simpa [Plain, isNL, and_assoc] using List.any_eq_false.1 h c hc

theorem char_plain {s : St} {c : Nat} (hc : Plain d q c)
    (hm : s.mode = .startRecord ∨ s.mode = .startField ∨ s.mode = .inField) :
    char d q s c = { s.add c with mode := .inField } := by
  rcases hm with hm | hm | hm <;> simp [char, hm, startFieldChar, hc.2.2, hc.1, hc.2.1, St.add]

theorem run_plain (f : Field) (c : Nat) (p : Pend) (s : St) (hp : p ≠ .cr) (hf : ∀ x ∈ c :: f, Plain d q x)
    (hm : s.mode = .startRecord ∨ s.mode = .startField ∨ s.mode = .inField) :
    run d q (p, s) (c :: f) = (.dirty, { s with mode := .inField, field := s.field ++ c :: f }) := by
  have hc := hf c List.mem_cons_self
  rw [run_cons, feed_ord s hp hc.2.2, char_plain hc hm]
  match f with
  | [] => rfl
  | c' :: f =>
    rw [run_plain f c' .dirty _ nofun (fun x hx => hf x (List.mem_cons_of_mem _ hx)) (.inr (.inr rfl))]
    simp [St.add]

/-- The mode afterwards is recorded for the separator that follows (`char_delim`, `run_term`): inside an
    unquoted field or just behind a closing quote, unless nothing was written. -/
theorem run_writeField (D : Dialect d q) (f : Field) (p : Pend) (s0 : St) (hp : p ≠ .cr) (hf : s0.field = [])
    (hm : s0.mode = .startField ∨ s0.mode = .startRecord) :
    ∃ p' m, p' ≠ .cr ∧ run d q (p, s0) (writeField qa d q f) = (p', { s0 with mode := m, field := f }) ∧
      (m = .inField ∨ m = .quoteInQuoted ∨ (f = [] ∧ qa = false ∧ m = s0.mode)) := by
  unfold writeField
  split
  · -- quoted: opening quote, escaped content, closing quote
    have hopen : char d q s0 q = { s0 with mode := .inQuoted } := by
      rcases hm with hm | hm <;> simp [char, hm, startFieldChar, D.qnl]
    obtain ⟨p1, hbody⟩ := run_escape D f .dirty { s0 with mode := .inQuoted } rfl
    obtain ⟨p2, hclose, hp2⟩ := feed_inQuoted D p1 { s0 with mode := .inQuoted, field := s0.field ++ f } q rfl
    refine ⟨.dirty, .quoteInQuoted, by simp, ?_, .inr (.inl rfl)⟩
    rw [List.append_assoc, List.singleton_append, run_cons, feed_ord s0 hp D.qnl, hopen, run_append, hbody,
      run_cons, hclose, hp2 D.qnl]
    simp [run, char, hf]
  · rename_i hn
    obtain ⟨hqa, hnq⟩ : qa = false ∧ needsQuote d q f = false := by simpa using hn
    cases f with
    | nil =>
      refine ⟨p, s0.mode, hp, ?_, .inr (.inr ⟨rfl, hqa, rfl⟩)⟩
      show (p, s0) = (p, { s0 with mode := s0.mode, field := [] })
      rw [← hf]
    | cons c f =>
      refine ⟨.dirty, .inField, by simp, ?_, .inl rfl⟩
      rw [run_plain f c p s0 hp (plain_of_needsQuote hnq) (hm.symm.imp_right .inl), hf]; rfl

theorem char_delim (D : Dialect d q) {s : St}
    (hm : s.mode = .inField ∨ s.mode = .quoteInQuoted ∨ s.mode = .startField ∨ s.mode = .startRecord) :
    char d q s d = { s.save with mode := .startField } := by
  rcases hm with hm | hm | hm | hm <;> simp [char, hm, startFieldChar, D.dnl, D.dq]

/-- the reader between two records, `rs` delivered so far -/
abbrev ready (rs : List Record) (e : Bool) : St :=
  { mode := .startRecord, field := [], fields := [], records := rs, err := e }

theorem run_term (D : Dialect d q) {p : Pend} {s : St} (hp : p ≠ .cr)
    (hm : s.mode = .inField ∨ s.mode = .quoteInQuoted ∨ s.mode = .startField) :
    run d q (p, s) [CR, LF] = (.none, ready (s.records ++ [s.fields ++ [s.field]]) s.err) := by
  have hcq : ¬ CR = q := Ne.symm (isNL_false D.qnl).1
  have hcd : ¬ CR = d := Ne.symm (isNL_false D.dnl).1
  have hcr : char d q s CR = { s.save with mode := .eatCRNL } := by
    rcases hm with hm | hm | hm <;> simp [char, hm, startFieldChar, isNL, hcq, hcd]
  rw [run_crlf s hp, hcr]
  rfl

/-- The text of a record and its terminator deliver the record: from the start of a field, or from
    the start of a record unless the text is empty though the record is not (a lone empty field,
    unquoted: the writer's reason to write it as `""`). -/
theorem run_joinFields (D : Dialect d q) (r : Record) (p : Pend) (s0 : St) (hp : p ≠ .cr) (hf : s0.field = [])
    (hm : (s0.mode = .startField ∧ r ≠ []) ∨ (s0.mode = .startRecord ∧ (r = [[]] → qa = true))) :
    run d q (p, s0) (joinFields qa d q r ++ [CR, LF]) = (.none, ready (s0.records ++ [s0.fields ++ r]) s0.err) := by
  induction r generalizing p s0 with
  | nil =>
    obtain ⟨-, h⟩ | ⟨hm, -⟩ := hm
    · exact absurd rfl h
    · rw [joinFields, List.nil_append, run_crlf s0 hp]
      simp [char, hm, hf, isNL, eol, St.emit]
  | cons f rest ih =>
    have hm0 : s0.mode = .startField ∨ s0.mode = .startRecord := hm.imp And.left And.left
    obtain ⟨p1, m, hp1, hrun, hmode⟩ := run_writeField (qa := qa) D f p s0 hp hf hm0
    cases rest with
    | nil =>
      rw [joinFields, run_append, hrun, run_term D hp1]
      rcases hmode with h | h | ⟨rfl, hqa, h⟩
      · exact .inl h
      · exact .inr (.inl h)
      · rcases hm with ⟨hm, -⟩ | ⟨-, hm⟩
        · exact .inr (.inr (h.trans hm))
        · rw [hm rfl] at hqa; cases hqa
    | cons f2 rest2 =>
      rw [joinFields, List.append_assoc, List.append_assoc, run_append, hrun, List.singleton_append, run_cons,
        feed_ord _ hp1 D.dnl, char_delim D (hmode.imp_right (.imp_right fun ⟨_, _, h⟩ => h ▸ hm0)),
        ih .dirty _ (by simp) rfl (.inl ⟨rfl, nofun⟩)]
      · simp [St.save]
      · nofun

theorem run_writeRow (D : Dialect d q) (r : Record) (rs : List Record) (e : Bool) :
    run d q (.none, ready rs e) (writeRow qa d q r) = (.none, ready (rs ++ [r]) e) := by
  unfold writeRow
  split
  · -- the lone empty field is written as it would be under QUOTE_ALL
    exact run_joinFields (qa := true) D [[]] .none _ nofun rfl (.inr ⟨rfl, fun _ => rfl⟩)
  · rename_i h1
    exact run_joinFields D r .none _ nofun rfl (.inr ⟨rfl, fun h => absurd h (h1 · )⟩)

theorem run_writeAll (D : Dialect d q) (rows rs : List Record) (e : Bool) :
    run d q (.none, ready rs e) (writeAll qa d q rows) = (.none, ready (rs ++ rows) e) := by
  induction rows generalizing rs with
  | nil => rw [List.append_nil]; rfl
  | cons r rows ih =>
    have : writeAll qa d q (r :: rows) = writeRow qa d q r ++ writeAll qa d q rows := List.flatMap_cons
    rw [this, run_append, run_writeRow D, ih, List.append_assoc]
    rfl

/-- **csv round trip.**  For every delimiter and quote character that differ and are not CR or LF, and every
    table of text cells (empty cells, empty records, embedded delimiters, quotes, CR, LF, CRLF included),
    reading what `csv.writer` (QUOTE_MINIMAL or QUOTE_ALL, doublequote, "\r\n") wrote gives the table back, without error. -/
theorem read_write (D : Dialect d q) (rows : List Record) : readAll d q (writeAll qa d q rows) = rows :=
  congrArg finish (run_writeAll D rows [] false)

theorem read_write_no_error (D : Dialect d q) (rows : List Record) :
    (run d q (.none, St.init) (writeAll qa d q rows)).2.err = false :=
  congrArg (·.2.err) (run_writeAll D rows [] false)

/-- `Dialect` is needed: with delimiter = quotechar the round trip fails -/
example : readAll 44 44 (writeAll false 44 44 [[[44], [98]]]) ≠ [[[44], [98]]] := by decide

/-- non-vacuity: the usual dialects satisfy `Dialect`, and a nasty table goes through -/
example : Dialect 44 34 := ⟨by decide, by decide, by decide⟩
example : Dialect 9 34 := ⟨by decide, by decide, by decide⟩
example : readAll 44 34 (writeAll false 44 34 [[[34, 44, 13, 10, 34], []], [[]], [], [[13], [10, 97]]]) =
    [[[34, 44, 13, 10, 34], []], [[]], [], [[13], [10, 97]]] := by decide
example : readAll 9 39 (writeAll true 9 39 [[[39, 9], []], [[]], [[13, 10]]]) = [[[39, 9], []], [[]], [[13, 10]]] := by decide

end Petl.Csv
