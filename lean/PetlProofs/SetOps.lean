/-
  The two-pointer loops over sorted inputs and the Counter loops compute multiset difference /
  intersection (multiplicities under row equality).

  In either pair of loops complement and intersection walk the lists alike and divide the first table
  between them (`compl_append_inter_perm`, `hashCompl_append_hashInter_perm`).  So only the count of
  the intersection is proved by induction over the loop, that of the complement follows as
  `a - min a b`; the strict complement is not what an intersection leaves and has its own induction.
-/
import Petl.SetOps
import PetlProofs.Sort

namespace Petl

theorem rowOrd : StrictWeakOrder rowLt rowEq :=
  ⟨fun _ _ => Val.trichotomy _ _, fun _ _ _ => Val.le_trans _ _ _⟩

theorem rowEq_refl (a : Row) : rowEq a a = true := rowOrd.eq_refl a
theorem rowLt_congr_right (a b c : Row) (h : rowEq b c = true) : rowLt a b = rowLt a c := rowOrd.lt_congr_right a b c h

def SortedRows (l : List Row) : Prop := l.Pairwise (fun a b => rowLt b a = false)

theorem countRow_nil (x : Row) : countRow x [] = 0 := rfl

theorem countRow_cons (x a : Row) (l : List Row) :
    countRow x (a :: l) = (if rowEq x a then 1 else 0) + countRow x l := by
  rw [countRow, List.filter_cons]
  cases rowEq x a <;> simp [countRow, Nat.add_comm]

theorem countRow_append (x : Row) (l l' : List Row) :
    countRow x (l ++ l') = countRow x l + countRow x l' := by
  simp only [countRow, List.filter_append, List.length_append]

theorem countRow_perm (x : Row) {l l' : List Row} (h : l.Perm l') : countRow x l = countRow x l' :=
  (h.filter _).length_eq

theorem countRow_eq_zero (x : Row) (l : List Row) : countRow x l = 0 ↔ ∀ y ∈ l, ¬ rowEq x y = true := by
  rw [countRow, List.length_eq_zero_iff, List.filter_eq_nil_iff]

theorem countRow_zero_of_lt_all (x : Row) (l : List Row) (h : ∀ y ∈ l, rowLt x y = true) :
    countRow x l = 0 :=
  (countRow_eq_zero x l).2 fun y hy => ne_true_of_eq_false (rowOrd.lt_ne x y (h y hy))

theorem countRow_zero_of_gt_all (x : Row) (l : List Row) (h : ∀ y ∈ l, rowLt y x = true) :
    countRow x l = 0 :=
  (countRow_eq_zero x l).2 fun y hy => ne_true_of_eq_false (rowOrd.gt_ne x y (h y hy))

/-- `a < b ≤ everything in b :: bs`: a row equal to `a` does not occur in `b :: bs` -/
theorem count_zero_above (x a b : Row) (bs : List Row) (h : rowLt a b = true) (hs : SortedRows (b :: bs))
    (hx : rowEq x a = true) : countRow x (b :: bs) = 0 := by
  refine countRow_zero_of_lt_all x _ ?_
  simp only [rowOrd.lt_congr_left x a _ hx]
  exact List.forall_mem_cons.2 ⟨h, fun y hy => rowOrd.lt_of_lt_of_le a b y h ((List.pairwise_cons.1 hs).1 y hy)⟩

theorem countRow_ne_zero_of_any (x a : Row) (l : List Row) (h : l.any (rowEq a) = true)
    (hx : rowEq x a = true) : countRow x l ≠ 0 := by
  obtain ⟨y, hy, hay⟩ := List.any_eq_true.1 h
  exact fun h0 => (countRow_eq_zero x l).1 h0 y hy (rowOrd.eq_trans x a y hx hay)

theorem countRow_zero_of_not_any (x a : Row) (l : List Row) (h : ¬ l.any (rowEq a) = true)
    (hx : rowEq x a = true) : countRow x l = 0 :=
  (countRow_eq_zero x l).2 fun y hy hxy =>
    h (List.any_eq_true.2 ⟨y, hy, rowOrd.eq_congr_left x a y hx ▸ hxy⟩)

theorem not_lt_not_eq_gt (a b : Row) (h1 : ¬ rowLt a b = true) (h2 : ¬ rowEq a b = true) : rowLt b a = true :=
  (rowOrd.total a b).resolve_left h1 |>.resolve_left h2

/-- both loops walk the two lists alike and every row of `a` goes to exactly one of them
    (no sortedness needed): complement is what intersection leaves -/
theorem compl_append_inter_perm (A B : List Row) : (complLoop false A B ++ interLoop A B).Perm A := by
  fun_induction interLoop A B with
  | case1 B => simp [complLoop]
  | case2 a as => simp [complLoop]
  | case3 a as b bs hlt ih => rw [complLoop, if_pos hlt]; exact ih.cons a
  | case4 a as b bs hlt heq ih =>
    rw [complLoop, if_neg hlt, if_pos heq, if_neg Bool.false_ne_true]
    exact List.perm_middle.trans (ih.cons a)
  | case5 a as b bs hlt heq ih => rw [complLoop, if_neg hlt, if_neg heq]; exact ih

theorem interLoop_count (x : Row) (A B : List Row) (hA : SortedRows A) (hB : SortedRows B) :
    countRow x (interLoop A B) = min (countRow x A) (countRow x B) := by
  fun_induction interLoop A B with
  | case1 B => simp [countRow_nil]
  | case2 a as => simp [countRow_nil]
  | case3 a as b bs hlt ih =>
    rw [ih hA.of_cons hB, countRow_cons x a as]
    cases hx : rowEq x a <;> simp [hx, count_zero_above x a b bs hlt hB]
  | case4 a as b bs hlt heq ih =>
    rw [countRow_cons, ih hA.of_cons hB.of_cons, countRow_cons x a as, countRow_cons x b bs,
      rowOrd.eq_congr_right x a b heq, Nat.add_min_add_left]
  | case5 a as b bs hlt heq ih =>
    rw [ih hA hB.of_cons, countRow_cons x b bs]
    cases hx : rowEq x b <;> simp [hx, count_zero_above x b a as (not_lt_not_eq_gt a b hlt heq) hA]

theorem complLoop_count (x : Row) (A B : List Row) (hA : SortedRows A) (hB : SortedRows B) :
    countRow x (complLoop false A B) = countRow x A - countRow x B := by
  rw [Nat.sub_eq_sub_min, ← interLoop_count x A B hA hB, ← countRow_perm x (compl_append_inter_perm A B),
    countRow_append, Nat.add_sub_cancel]

theorem complLoop_count_strict (x : Row) (A B : List Row) (hA : SortedRows A) (hB : SortedRows B) :
    countRow x (complLoop true A B) = if countRow x B = 0 then countRow x A else 0 := by
  fun_induction complLoop true A B with
  | case1 B => simp [countRow_nil]
  | case2 a as => simp [countRow_nil]
  | case3 a as b bs hlt ih =>
    rw [countRow_cons, countRow_cons x a as, ih hA.of_cons hB]
    cases hx : rowEq x a <;> simp [hx, count_zero_above x a b bs hlt hB]
  | case4 a as b bs hlt heq _ ih =>
    rw [ih hA.of_cons hB, countRow_cons x a as]
    cases hx : rowEq x a <;> simp [hx, countRow_ne_zero_of_any x a (b :: bs) (by simp [heq])]
  | case5 a as b bs hlt heq hst => exact absurd rfl hst
  | case6 a as b bs hlt heq ih =>
    rw [ih hA hB.of_cons, countRow_cons x b bs]
    cases hx : rowEq x b <;> simp [hx, count_zero_above x b a as (not_lt_not_eq_gt a b hlt heq) hA]

/-! ### the Counter loops (no sortedness needed)

The Counter `bcnt` of b's rows is the list of those not yet used up: `bcnt[t] > 0` is `bcnt.any (rowEq a)`,
`bcnt[t] -= 1` is `eraseRow a bcnt`. -/

theorem eraseRow_count (x a : Row) (B : List Row) (h : B.any (rowEq a) = true) :
    countRow x B = (if rowEq x a then 1 else 0) + countRow x (eraseRow a B) := by
  fun_induction eraseRow a B with
  | case1 => simp at h
  | case2 b bs hab => rw [countRow_cons, rowOrd.eq_congr_right x a b hab]
  | case3 b bs hab ih => rw [countRow_cons, countRow_cons, ih (by simpa [hab] using h), Nat.add_left_comm]

theorem hashCompl_append_hashInter_perm (A B : List Row) :
    (hashComplLoop false A B ++ hashInterLoop A B).Perm A := by
  fun_induction hashInterLoop A B with
  | case1 B => exact .refl _
  | case2 a as B hany ih => rw [hashComplLoop, if_pos hany]; exact List.perm_middle.trans (ih.cons a)
  | case3 a as B hany ih => rw [hashComplLoop, if_neg hany]; exact ih.cons a

theorem hashInterLoop_count (x : Row) (A B : List Row) :
    countRow x (hashInterLoop A B) = min (countRow x A) (countRow x B) := by
  fun_induction hashInterLoop A B with
  | case1 B => simp [countRow_nil]
  | case2 a as B hany ih =>
    rw [countRow_cons, ih, countRow_cons x a as, eraseRow_count x a B hany, Nat.add_min_add_left]
  | case3 a as B hany ih =>
    rw [ih, countRow_cons x a as]
    cases hx : rowEq x a <;> simp [hx, countRow_zero_of_not_any x a B hany]

theorem hashComplLoop_count (x : Row) (A B : List Row) :
    countRow x (hashComplLoop false A B) = countRow x A - countRow x B := by
  rw [Nat.sub_eq_sub_min, ← hashInterLoop_count x A B, ← countRow_perm x (hashCompl_append_hashInter_perm A B),
    countRow_append, Nat.add_sub_cancel]

theorem hashComplLoop_count_strict (x : Row) (A B : List Row) :
    countRow x (hashComplLoop true A B) = if countRow x B = 0 then countRow x A else 0 := by
  fun_induction hashComplLoop true A B with
  | case1 B => simp [countRow_nil]
  | case2 a as B hany _ ih =>
    rw [ih, countRow_cons x a as]
    cases hx : rowEq x a <;> simp [hx, countRow_ne_zero_of_any x a B hany]
  | case3 a as B hany hst => exact absurd rfl hst
  | case4 a as B hany ih =>
    rw [countRow_cons, ih, countRow_cons x a as]
    cases hx : rowEq x a <;> simp [hx, countRow_zero_of_not_any x a B hany]

theorem hashComplLoop_sublist (strict : Bool) (A B : List Row) : List.Sublist (hashComplLoop strict A B) A := by
  fun_induction hashComplLoop strict A B with
  | case1 => exact .slnil
  | case2 a as B _ _ ih => exact ih.cons a
  | case3 a as B _ _ ih => exact ih.cons a
  | case4 a as B _ ih => exact ih.cons_cons a

theorem hashInterLoop_sublist (A B : List Row) : List.Sublist (hashInterLoop A B) A := by
  fun_induction hashInterLoop A B with
  | case1 => exact .slnil
  | case2 a as B _ ih => exact ih.cons_cons a
  | case3 a as B _ ih => exact ih.cons a

/-! ### the sort with key=None sorts rectangular rows as tuples -/

def Rect (w : Nat) (rows : List Row) : Prop := ∀ r ∈ rows, r.length = w

theorem getKey_range_lt (w : Nat) (a b : Row) (ha : a.length = w) (hb : b.length = w) :
    Val.lt (getKey (List.range w) a) (getKey (List.range w) b) = rowLt a b := by
  subst ha
  rw [getKey_eq_of_cells, getKey_eq_of_cells, map_getCell_range, ← hb, map_getCell_range]
  -- one field: the key is the cell itself, not a 1-tuple
  match a, b, hb with
  | [x], [y], _ => exact (Val.lt_seq_singleton false false x y).symm
  | [], [], _ | _ :: _ :: _, _ :: _ :: _, _ => rfl

theorem sortAll_perm (hdr : Row) (bs : Option Nat) (hbs : ∀ b, bs = some b → 1 ≤ b) (rows : List Row) :
    (sortAll hdr bs rows).Perm rows :=
  sortRows_perm _ false bs hbs rows

theorem sortAll_sorted (hdr : Row) (bs : Option Nat) (hbs : ∀ b, bs = some b → 1 ≤ b)
    (rows : List Row) (hr : Rect hdr.length rows) : SortedRows (sortAll hdr bs rows) := by
  have hp := sortAll_perm hdr bs hbs rows
  refine (sortRows_sorted _ bs hbs rows).imp_of_mem fun {a b} ha hb hab => ?_
  rwa [← getKey_range_lt hdr.length b a (hr b (hp.mem_iff.1 hb)) (hr a (hp.mem_iff.1 ha))]

end Petl
