/-
  The ownership analysis of Petl.Heap a second time, on states that are cheap to evaluate in the kernel
  (PetlProofs/HeapSafe.lean runs it over the whole table of function bodies).  `Abs` is an association list:
  `get` searches it, `set` filters it, `meet` and `sub` search one list for every entry of the other.  A `PAbs`
  keeps what is known of variable `x` at position `x` (`none`, or past the end: nothing), so that every
  operation is a single pass.  `psafe_sound`: what the positional analysis accepts, `analyze` accepts; the
  two are run side by side on related states.  The converse is not claimed and not needed.
-/
import PetlProofs.Heap

namespace Petl.Heap

abbrev PAbs := List (Option AVal)

def PAbs.get : PAbs → Nat → Option AVal
  | [], _ => none
  | v :: _, 0 => v
  | _ :: l, x + 1 => PAbs.get l x

def PAbs.set : PAbs → Nat → Option AVal → PAbs
  | [], 0, v => [v]
  | [], x + 1, v => none :: PAbs.set [] x v
  | _ :: l, 0, v => v :: l
  | w :: l, x + 1, v => w :: PAbs.set l x v

def PAbs.dropSite (l : PAbs) (n : Nat) : PAbs := l.map (Option.map fun v => if v = .own n then .maybe n else v)
def PAbs.dropOwn (l : PAbs) : PAbs := l.map (Option.map fun | .own k => .maybe k | v => v)

def PAbs.meet : PAbs → PAbs → PAbs
  | v :: l, w :: m => (v.bind fun v => w.bind v.join) :: PAbs.meet l m
  | _, _ => []

def PAbs.sub : PAbs → PAbs → Bool
  | [], _ => true
  | v :: l, [] => v.isNone && PAbs.sub l []
  | v :: l, w :: m => (v.all fun v => w.any (·.le v)) && PAbs.sub l m

def ploopInv (f : PAbs → Option PAbs) : Nat → PAbs → Option PAbs
  | 0, _ => none
  | fuel + 1, inv =>
    match f inv with
    | none => none
    | some out => if inv.sub out then some inv else ploopInv f fuel (inv.meet out)

def panalyze : Prog → PAbs → Option PAbs
  | .skip, l => some l
  | .bindExt x, l => some (l.set x (some .ext))
  | .bindFresh x n, l => some (l.set x (some (.own n)))
  | .bindVar x y, l => some (l.set x (l.get y))
  | .bindUnknown x, l => some (l.set x none)
  | .mutate x, l =>
    match l.get x with
    | some (.own _) => some l
    | _ => none
  | .release x, l =>
    match l.get x with
    | some (.own n) => some (l.dropSite n)
    | some (.maybe n) => some (l.dropSite n)
    | some .ext => some l
    | none => some l.dropOwn
  | .seq p q, l => (panalyze p l).bind (panalyze q)
  | .branch p q, l =>
    match panalyze p l, panalyze q l with
    | some b, some c => some (b.meet c)
    | _, _ => none
  -- `analyze` allows 2 * length + 2 rounds.  Less fuel only makes `psafe` accept less, and `tableOK` then falls
  -- back on `safe`; no body in Petl/Gen/HeapProgs.lean needs a third round.
  | .loop p, l => ploopInv (panalyze p) 2 l

def psafe (p : Prog) : Bool := (panalyze p []).isSome

theorem PAbs.get_set (l : PAbs) (x : Nat) (v : Option AVal) (y : Nat) :
    (l.set x v).get y = if y = x then v else l.get y := by
  fun_induction PAbs.set l x v generalizing y <;> cases y <;> simp [PAbs.get, *]

theorem PAbs.get_map (g : AVal → AVal) (l : PAbs) (x : Nat) :
    PAbs.get (l.map (Option.map g)) x = (l.get x).map g := by
  fun_induction PAbs.get l x <;> simp [PAbs.get, *]

theorem PAbs.get_meet (l m : PAbs) (x : Nat) : (l.meet m).get x = (l.get x).bind fun v => (m.get x).bind v.join := by
  fun_induction PAbs.get l x generalizing m <;> cases m <;>
    simp only [PAbs.meet, PAbs.get, Option.bind_none, Option.bind_fun_none, *]

theorem PAbs.sub_iff (l m : PAbs) :
    l.sub m = true ↔ ∀ x, ((l.get x).all fun v => (m.get x).any (·.le v)) = true := by
  fun_induction PAbs.sub l m with
  | case1 => simp [PAbs.get]
  | case2 _ _ ih | case3 _ _ _ _ ih => rw [← Nat.and_forall_add_one, Bool.and_eq_true, ih]; simp [PAbs.get]

/-- Stated of the members of `a`, not of `a.get`: `meet` and `sub` visit every pair of the list, also one that
    an earlier pair for the same variable hides from `get`.  The `↔` rules such pairs out (it makes `a`
    functional) without a separate `Nodup` invariant. -/
def Rel (a : Abs) (l : PAbs) : Prop := ∀ x v, (x, v) ∈ a ↔ l.get x = some v

variable {a b : Abs} {l m : PAbs}

theorem Rel.get (h : Rel a l) (x : Nat) : a.get x = l.get x := by
  cases hg : a.get x with
  | some v => exact ((h x v).1 (get_mem hg)).symm
  | none =>
    rw [Abs.get, Option.map_eq_none_iff, List.find?_eq_none] at hg
    exact (Option.eq_none_iff_forall_ne_some.2 fun v hl => hg _ ((h x v).2 hl) (decide_eq_true rfl)).symm

theorem Rel.drop (h : Rel a l) (x : Nat) : Rel (a.drop x) (l.set x none) := fun y w => by
  by_cases hy : y = x <;> simp [mem_drop, PAbs.get_set, hy, h y w]

theorem Rel.set (h : Rel a l) (x : Nat) (v : AVal) : Rel (a.set x v) (l.set x (some v)) := fun y w => by
  rw [Abs.set, List.mem_cons, h.drop x y w, PAbs.get_set, PAbs.get_set]
  by_cases hy : y = x <;> simp [hy, @eq_comm _ w]

theorem Rel.map {G : Nat × AVal → Nat × AVal} {g : AVal → AVal} (hG : ∀ f, G f = (f.1, g f.2)) (h : Rel a l) :
    Rel (a.map G) (l.map (Option.map g)) := fun x v => by
  rw [PAbs.get_map, Option.map_eq_some_iff, List.mem_map]
  constructor
  · rintro ⟨f, hf, e⟩; rw [hG] at e; cases e; exact ⟨f.2, (h _ _).1 hf, rfl⟩
  · rintro ⟨u, hu, e⟩; exact ⟨(x, u), (h _ _).2 hu, by rw [hG, e]⟩

theorem Rel.dropSite (h : Rel a l) (n : Nat) : Rel (a.dropSite n) (l.dropSite n) :=
  h.map fun f => by split <;> rfl

theorem Rel.dropOwn (h : Rel a l) : Rel a.dropOwn l.dropOwn :=
  h.map fun (x, v) => by cases v <;> rfl

theorem Rel.meet (h : Rel a l) (k : Rel b m) : Rel (a.meet b) (l.meet m) := fun x u => by
  simp only [mem_meet, PAbs.get_meet, Option.bind_eq_some_iff, h x, k.get, exists_and_left]

theorem Rel.sub (h : Rel a l) (k : Rel b m) : a.sub b = l.sub m := by
  rw [Bool.eq_iff_iff, PAbs.sub_iff, Abs.sub, List.all_eq_true]
  simp only [Option.all_eq_true, Prod.forall, ← h _ _, ← k.get]
  refine forall_congr' fun x => forall_congr' fun v => imp_congr_right fun _ => ?_
  cases b.get x <;> rfl

/-- one-sided: `panalyze` may fail where `analyze` does not (it has less fuel) -/
def Sim (oa : Option Abs) (ol : Option PAbs) : Prop := ∀ l', ol = some l' → ∃ a', oa = some a' ∧ Rel a' l'

theorem Sim.some (h : Rel a l) : Sim (some a) (some l) := fun _ e => ⟨a, rfl, Option.some.inj e ▸ h⟩

theorem Sim.none {oa : Option Abs} : Sim oa none := fun _ e => nomatch e

theorem ploopInv_sim {f : Abs → Option Abs} {pf : PAbs → Option PAbs} (hf : ∀ {a l}, Rel a l → Sim (f a) (pf l))
    {n : Nat} (k : Nat) (h : Rel a l) : Sim (loopInv f (n + k) a) (ploopInv pf n l) := by
  induction n generalizing a l with
  | zero => exact Sim.none
  | succ n ih =>
    rw [Nat.add_right_comm, ploopInv, loopInv]
    cases ho : pf l with
    | none => exact Sim.none
    | some out' =>
      obtain ⟨out, e, h'⟩ := hf h out' ho
      simp only [e, h.sub h']
      split
      · exact Sim.some h
      · exact ih (h.meet h')

theorem panalyze_sim (p : Prog) (h : Rel a l) : Sim (analyze p a) (panalyze p l) := by
  induction p generalizing a l with
  | skip => exact Sim.some h
  | bindExt x | bindFresh x n => exact Sim.some (h.set x _)
  | bindVar x y =>
    rw [analyze, panalyze, h.get]
    cases l.get y
    · exact Sim.some (h.drop x)
    · exact Sim.some (h.set x _)
  | bindUnknown x => exact Sim.some (h.drop x)
  | mutate x =>
    rw [analyze, panalyze, h.get]
    rcases l.get x with _ | _ | _ | _
    · exact Sim.none
    · exact Sim.some h
    · exact Sim.none
    · exact Sim.none
  | release x =>
    rw [analyze, panalyze, h.get]
    rcases l.get x with _ | _ | _ | _
    · exact Sim.some h.dropOwn
    · exact Sim.some (h.dropSite _)
    · exact Sim.some h
    · exact Sim.some (h.dropSite _)
  | seq p q ihp ihq =>
    intro l' e
    obtain ⟨l₁, hp, hq⟩ := Option.bind_eq_some_iff.1 e
    obtain ⟨a₁, e₁, h₁⟩ := ihp h l₁ hp
    rw [analyze, e₁]
    exact ihq h₁ l' hq
  | branch p q ihp ihq =>
    rw [panalyze]
    split
    · next l₁ l₂ hp hq =>
      obtain ⟨a₁, e₁, h₁⟩ := ihp h l₁ hp
      obtain ⟨a₂, e₂, h₂⟩ := ihq h l₂ hq
      rw [analyze, e₁, e₂]
      exact Sim.some (h₁.meet h₂)
    · exact Sim.none
  | loop p ih => rw [analyze, Nat.add_comm]; exact ploopInv_sim ih _ h

theorem psafe_sound (p : Prog) (hp : psafe p = true) : safe p = true := by
  obtain ⟨l, hl⟩ := Option.isSome_iff_exists.1 hp
  obtain ⟨a, ha, _⟩ := panalyze_sim p (a := []) (l := []) (fun _ _ => by simp [PAbs.get]) l hl
  exact Option.isSome_iff_exists.2 ⟨a, ha⟩

end Petl.Heap
